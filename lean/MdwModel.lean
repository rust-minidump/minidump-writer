import MdwModel.Prelude
import MdwModel.Model.Buffer
import MdwModel.Model.BufferHistory
import MdwModel.Model.Records
import MdwModel.Lemmas.At
import MdwModel.Lemmas.Buffer
import MdwModel.Lemmas.Outcome
import MdwModel.Lemmas.Gather
import MdwModel.Lemmas.Ptrace
import MdwModel.Theorems.C16
import MdwModel.Driver.Parse
import MdwModel.Driver.Common
import MdwModel.Driver.C16
import MdwModel.Model.DirSection
import MdwModel.Lemmas.DirSection
import MdwModel.Theorems.C09
import MdwModel.Theorems.C10
import MdwModel.Driver.C09
import MdwModel.Model.Maps
import MdwModel.Pred.C13
import MdwModel.Lemmas.Ascending
import MdwModel.Lemmas.Maps
import MdwModel.Theorems.C13
import MdwModel.Driver.C13
import MdwModel.Model.Stack
import MdwModel.Lemmas.Stack
import MdwModel.Theorems.C12
import MdwModel.Theorems.C06
import MdwModel.Theorems.C20
import MdwModel.Driver.Stack
import MdwModel.Model.ThreadNames
import MdwModel.Theorems.C15
import MdwModel.Driver.C15
import MdwModel.Generated.Source
import MdwModel.Model.Decode
import MdwModel.Theorems.Plan
import MdwModel.Theorems.C01
import MdwModel.Driver.Live
import MdwModel.Driver.C01
import MdwModel.Model.Writer
import MdwModel.Model.Canonical
import MdwModel.Theorems.C19
import MdwModel.Driver.C19
import MdwModel.Model.Regs
import MdwModel.Model.Exception
import MdwModel.Theorems.CtxLayout
import MdwModel.Theorems.C05
import MdwModel.Theorems.C04
import MdwModel.Theorems.C07
import MdwModel.Driver.LiveProps
import MdwModel.Model.MemReader
import MdwModel.Theorems.C17
import MdwModel.Driver.C17
import MdwModel.Model.SoftErrors
import MdwModel.Theorems.C11
import MdwModel.Driver.C11
import MdwModel.Model.Ptrace
import MdwModel.Theorems.C03
import MdwModel.Driver.C03
import MdwModel.Model.Info
import MdwModel.Theorems.C18
import MdwModel.Driver.C18
import MdwModel.Model.Hostile
import MdwModel.Theorems.C02
import MdwModel.Driver.C02
import MdwModel.Model.Elf
import MdwModel.Driver.C14
import MdwModel.Theorems.C14
import MdwModel.Model.Modules
import MdwModel.Driver.C08
import MdwModel.Theorems.C08
import MdwModel.Model.Dump
import MdwModel.Driver.Image
import MdwModel.Lemmas.Image
import MdwModel.Theorems.Stages
import MdwModel.Theorems.Image
import MdwModel.Theorems.Refine
import MdwModel.Theorems.RefineLoop
import MdwModel.Theorems.RefineMore
import MdwModel.Theorems.Compose
import MdwModel.Theorems.EndToEnd
import MdwModel.Theorems.EndToEndMem
import MdwModel.Theorems.System
import MdwModel.Theorems.SystemTotal
import MdwModel.Theorems.SystemLayout
import MdwModel.Theorems.DumperInit
import MdwModel.Theorems.Suspend
import MdwModel.Theorems.SpBelow
import MdwModel.Theorems.AppLoop
import MdwModel.Theorems.LinkWalk
import MdwModel.Theorems.LinkName
import MdwModel.Theorems.DirSlots
import MdwModel.Theorems.ExcFields
import MdwModel.Theorems.CommName
import MdwModel.Theorems.AttachLoop
import MdwModel.Theorems.FlushOrder
import MdwModel.Theorems.MayBeStack
import MdwModel.Theorems.FoldSameFile
import MdwModel.Theorems.NoteOwner
import MdwModel.Theorems.Truncated
