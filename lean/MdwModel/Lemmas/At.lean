/-
  Byte layouts. `At img off seg`: the byte string `seg` occupies `[off, off + |seg|)` of `img`. A serialised record
  is a right-nested concatenation of fields; a proof about it starts from `At.whole` (or from wherever the record
  sits in a larger image) and moves a cursor over it once, with `At.next` (skip a field) and `At.fieldNext` (take a
  little-endian field and skip it). Every reader of the development — `fieldAt` / `sliceAt` on lists, `readBytes` /
  `readLE` through a view — finds what `At` says is there.
-/
import MdwModel.Model.Regs
namespace Mdw

def sliceAt (bs : Bytes) (off n : Nat) : Bytes := (bs.drop off).take n

def At (img : Bytes) (off : Nat) (seg : Bytes) : Prop :=
  ∃ pre post, img = pre ++ seg ++ post ∧ pre.length = off

theorem At.here (pre seg post : Bytes) : At (pre ++ seg ++ post) pre.length seg := ⟨pre, post, rfl, rfl⟩

theorem At.end_ (pre seg : Bytes) : At (pre ++ seg) pre.length seg :=
  ⟨pre, [], by simp, rfl⟩

theorem At.head (seg post : Bytes) : At (seg ++ post) 0 seg := ⟨[], post, by simp, rfl⟩

theorem At.whole (seg : Bytes) : At seg 0 seg := ⟨[], [], by simp, rfl⟩

theorem At.inside {img : Bytes} {off : Nat} {seg : Bytes} (h : At img off seg) : off + seg.length ≤ img.length := by
  obtain ⟨pre, post, rfl, rfl⟩ := h
  simp only [List.length_append]; omega

theorem At.append_right {img : Bytes} {off : Nat} {seg : Bytes} (h : At img off seg) (t : Bytes) :
    At (img ++ t) off seg := by
  obtain ⟨pre, post, rfl, rfl⟩ := h
  exact ⟨pre, post ++ t, by simp [List.append_assoc], rfl⟩

theorem At.append_left {img : Bytes} {off : Nat} {seg : Bytes} (h : At img off seg) (p : Bytes) :
    At (p ++ img) (p.length + off) seg := by
  obtain ⟨pre, post, rfl, rfl⟩ := h
  exact ⟨p ++ pre, post, by simp [List.append_assoc], by simp⟩

theorem At.skip {rest : Bytes} {off : Nat} {seg : Bytes} (a : Bytes) (n : Nat) (hn : a.length = n) (h : At rest off seg) :
    At (a ++ rest) (n + off) seg := hn ▸ h.append_left a

theorem At.sub {img : Bytes} {off : Nat} {a b c : Bytes} (h : At img off (a ++ b ++ c)) :
    At img (off + a.length) b := by
  obtain ⟨pre, post, rfl, rfl⟩ := h
  exact ⟨pre ++ a, c ++ post, by simp [List.append_assoc], by simp⟩

theorem At.sub_head {img : Bytes} {off : Nat} {a c : Bytes} (h : At img off (a ++ c)) : At img off a := by
  simpa using @At.sub img off [] a c (by simpa using h)

theorem At.sub_tail {img : Bytes} {off : Nat} {a c : Bytes} (h : At img off (a ++ c)) :
    At img (off + a.length) c :=
  @At.sub img off a c [] (by simpa using h)

theorem At.trans {img seg s : Bytes} {off o : Nat} (h : At img off seg) (hs : At seg o s) : At img (off + o) s := by
  obtain ⟨pre, post, rfl, rfl⟩ := h
  obtain ⟨pre', post', rfl, rfl⟩ := hs
  exact ⟨pre ++ pre', post' ++ post, by simp [List.append_assoc], by simp⟩

theorem At.next {img : Bytes} {off : Nat} {a rest : Bytes} (n : Nat) (hn : a.length = n) (h : At img off (a ++ rest)) :
    At img (off + n) rest := hn ▸ h.sub_tail

theorem At.slice {img : Bytes} {off : Nat} {seg : Bytes} (h : At img off seg) : sliceAt img off seg.length = seg := by
  obtain ⟨pre, post, rfl, rfl⟩ := h
  simp only [sliceAt, List.append_assoc, List.drop_left, List.take_left]

theorem At.sliceN {img : Bytes} {off n : Nat} {seg : Bytes} (h : At img off seg) (hn : seg.length = n) :
    sliceAt img off n = seg := hn ▸ h.slice

theorem At.field {img : Bytes} {off k v : Nat} (h : At img off (le k v)) (hv : v < 256 ^ k) : fieldAt img off k = v := by
  have := h.sliceN (le_length k v)
  unfold sliceAt at this
  unfold fieldAt
  rw [this, unle_le k v hv]

theorem At.fieldNext {img : Bytes} {off k v : Nat} {rest : Bytes} (h : At img off (le k v ++ rest)) (hv : v < 256 ^ k) :
    fieldAt img off k = v ∧ At img (off + k) rest :=
  ⟨h.sub_head.field hv, h.next k (le_length k v)⟩

theorem At.read {img : Bytes} {off : Nat} {seg : Bytes} (h : At img off seg) :
    readBytes (viewOfList img) off seg.length = some seg := by
  rw [readBytes_list _ _ _ h.inside]
  exact congrArg some h.slice

theorem At.readLE {img : Bytes} {off k v : Nat} (h : At img off (le k v)) (hv : v < 256 ^ k) :
    readLE (viewOfList img) off k = some v := by
  have := h.read
  rw [le_length] at this
  unfold Mdw.readLE
  rw [this]
  simp only [Option.map_some, unle_le k v hv]

theorem At.flatMap_take {α} (f : α → Bytes) (l : List α) (k : Nat) (x : α) (h : l[k]? = some x) :
    At (l.flatMap f) ((l.take k).flatMap f).length (f x) := by
  obtain ⟨hk, rfl⟩ := List.getElem?_eq_some_iff.mp h
  have := At.here ((l.take k).flatMap f) (f l[k]) ((l.drop (k + 1)).flatMap f)
  rwa [List.append_assoc, ← List.flatMap_cons, ← List.drop_eq_getElem_cons hk, ← List.flatMap_append,
    List.take_append_drop] at this

theorem flatMap_const_length {α} (f : α → Bytes) (c : Nat) (hc : ∀ x, (f x).length = c) (l : List α) :
    (l.flatMap f).length = c * l.length := by
  induction l with
  | nil => simp
  | cons a r ih => simp [List.flatMap_cons, hc, ih, Nat.mul_succ]; omega

theorem At.flatMap_const {α} (f : α → Bytes) (c : Nat) (hc : ∀ x, (f x).length = c) (l : List α) (k : Nat) (x : α)
    (h : l[k]? = some x) : At (l.flatMap f) (c * k) (f x) := by
  have hk := (List.getElem?_eq_some_iff.mp h).1
  have := At.flatMap_take f l k x h
  rwa [flatMap_const_length f c hc, List.length_take, Nat.min_eq_left (Nat.le_of_lt hk)] at this

end Mdw
