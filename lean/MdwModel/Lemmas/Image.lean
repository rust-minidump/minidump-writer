/-
  Helper lemmas for Theorems/Stages.lean and Image.lean: what the image readers (`Img.bytes` / `u32` / `u64`) find where
  `At` (Lemmas/At.lean) puts something; the "extension" order on accumulators of the closed-form dump model (`Acc.Ext`)
  and what one writer does to an accumulator (`Acc.Step`).
-/
import MdwModel.Model.Dump
import MdwModel.Lemmas.At
namespace Mdw

theorem At.imgBytes {img : Bytes} {off : Nat} {seg : Bytes} (h : At img off seg) :
    (Img.ofBytes img).bytes off seg.length = some seg := by
  simp only [Img.bytes, Img.ofBytes]; exact h.read

theorem At.imgU32 {img : Bytes} {off v : Nat} (h : At img off (le 4 v)) (hv : v < 2 ^ 32) :
    (Img.ofBytes img).u32 off = some v := by
  simp only [Img.u32, Img.ofBytes]; exact h.readLE (by simpa using hv)

theorem At.imgU64 {img : Bytes} {off v : Nat} (h : At img off (le 8 v)) (hv : v < 2 ^ 64) :
    (Img.ofBytes img).u64 off = some v := by
  simp only [Img.u64, Img.ofBytes]; exact h.readLE (by simpa using hv)

def Acc.Ext (a b : Acc) : Prop :=
  b.base = a.base ∧ (∃ t, b.bytes = a.bytes ++ t) ∧ (∃ es, b.dir = a.dir ++ es)

theorem Acc.Ext.refl (a : Acc) : Acc.Ext a a := ⟨rfl, ⟨[], by simp⟩, ⟨[], by simp⟩⟩

theorem Acc.Ext.trans {a b c : Acc} (h1 : Acc.Ext a b) (h2 : Acc.Ext b c) : Acc.Ext a c := by
  obtain ⟨hb1, ⟨t1, ht1⟩, ⟨e1, he1⟩⟩ := h1
  obtain ⟨hb2, ⟨t2, ht2⟩, ⟨e2, he2⟩⟩ := h2
  exact ⟨by rw [hb2, hb1], ⟨t1 ++ t2, by rw [ht2, ht1, List.append_assoc]⟩, ⟨e1 ++ e2, by rw [he2, he1, List.append_assoc]⟩⟩

theorem Acc.Ext.at {a b : Acc} (h : Acc.Ext a b) {off : Nat} {seg : Bytes} (hs : At a.bytes off seg) :
    At b.bytes off seg := by
  obtain ⟨_, ⟨t, ht⟩, _⟩ := h
  rw [ht]; exact hs.append_right t

theorem Acc.Ext.dir {a b : Acc} (h : Acc.Ext a b) {k : Nat} {e : DirEnt} (hk : a.dir[k]? = some e) :
    b.dir[k]? = some e := by
  obtain ⟨_, _, ⟨es, he⟩⟩ := h
  rw [he, List.getElem?_append_left (List.getElem?_eq_some_iff.mp hk).1]
  exact hk

theorem Acc.Ext.pos_le {a b : Acc} (h : Acc.Ext a b) : a.pos ≤ b.pos := by
  obtain ⟨hb, ⟨t, ht⟩, _⟩ := h
  simp only [Acc.pos, hb, ht, List.length_append]; omega

theorem Acc.ext_add (a : Acc) (bs : Bytes) : Acc.Ext a (a.add bs) := ⟨rfl, ⟨bs, rfl⟩, ⟨[], by simp [Acc.add]⟩⟩
theorem Acc.ext_publish (a : Acc) (e : DirEnt) : Acc.Ext a (a.publish e) := ⟨rfl, ⟨[], by simp [Acc.publish]⟩, ⟨[e], rfl⟩⟩

structure Acc.Step (a b : Acc) (bytes : Bytes) (ents : List DirEnt) : Prop where
  base : b.base = a.base
  bytes : b.bytes = a.bytes ++ bytes
  dir : b.dir = a.dir ++ ents

theorem Acc.Step.ext {a b : Acc} {bytes : Bytes} {ents : List DirEnt} (h : Acc.Step a b bytes ents) : Acc.Ext a b :=
  ⟨h.base, ⟨_, h.bytes⟩, ⟨_, h.dir⟩⟩

theorem Acc.Step.pos {a b : Acc} {bytes : Bytes} {ents : List DirEnt} (h : Acc.Step a b bytes ents) :
    b.pos = a.pos + bytes.length := by
  simp only [Acc.pos, h.base, h.bytes, List.length_append]; omega

/-- the shape of most writers: something referenced (`pre`), the stream (`body`), the stream's entry -/
theorem Acc.step_publish (a : Acc) (pre body : Bytes) (e : DirEnt) :
    Acc.Step a (((a.add pre).add body).publish e) (pre ++ body) [e] :=
  ⟨rfl, by simp [Acc.add, Acc.publish], rfl⟩

theorem Acc.add_at (a : Acc) (bs : Bytes) : At (a.add bs).bytes a.bytes.length bs := At.end_ _ _

end Mdw
