/-
  The builder of `src/mem_writer.rs` in closed form: while the buffer stays below 2 ^ 32 (so that the `as u32` of a
  position is exact) every allocation is an append, and every write into an allocated range a `splice`.
-/
import MdwModel.Model.Buffer
namespace Mdw

namespace Buf

theorem writeAt_inbounds (b : Buf) (off : Nat) (v : Bytes)
    (h : off + v.length ≤ b.inner.length) :
    b.writeAt off v = some ⟨b.inner.take off ++ v ++ b.inner.drop (off + v.length)⟩ := by
  unfold writeAt
  have h1 : ¬ off > b.inner.length := by omega
  have h2 : ¬ (b.inner.length - off < v.length) := by omega
  simp [h1, h2]

theorem writeAt_end (b : Buf) (v : Bytes) :
    b.writeAt b.inner.length v = some ⟨b.inner ++ v⟩ := by
  unfold writeAt
  by_cases hv : 0 < v.length
  · simp [zeros, hv]
  · have : v = [] := List.length_eq_zero_iff.mp (by omega)
    subst this; simp

theorem write_spec (b : Buf) (v : Bytes) : b.write v = some ⟨b.inner ++ v⟩ := writeAt_end b v

end Buf

/-- `l` with `v` written over it from `off` on. `Buf.writeAt` in bounds, `Dest.put` without a gap, `Effect.patch`
    and the mirror invariant of the destination are all this one operation. -/
def splice (l : Bytes) (off : Nat) (v : Bytes) : Bytes := l.take off ++ v ++ l.drop (off + v.length)

theorem splice_length (l v : Bytes) (off : Nat) (h : off + v.length ≤ l.length) :
    (splice l off v).length = l.length := by
  rw [splice, List.length_append, List.length_append, List.length_take, List.length_drop]
  omega

theorem splice_get (l v : Bytes) (off j : Nat) (h : off ≤ l.length) :
    (splice l off v)[j]? =
      if j < off then l[j]? else if j < off + v.length then v[j - off]? else l[j]? := by
  unfold splice
  by_cases h1 : j < off
  · rw [if_pos h1, List.append_assoc, List.getElem?_append_left (by rw [List.length_take]; omega),
      List.getElem?_take_of_lt h1]
  · rw [if_neg h1, List.append_assoc, List.getElem?_append_right (by rw [List.length_take]; omega),
      List.length_take_of_le h]
    by_cases h2 : j < off + v.length
    · rw [if_pos h2, List.getElem?_append_left (by omega)]
    · rw [if_neg h2, List.getElem?_append_right (by omega), List.getElem?_drop]
      congr 1; omega

theorem splice_get_outside (l v : Bytes) (off i : Nat) (h : off ≤ l.length) (hi : i < off ∨ off + v.length ≤ i) :
    (splice l off v)[i]? = l[i]? := by
  rw [splice_get _ _ _ _ h]
  rcases hi with hi | hi
  · rw [if_pos hi]
  · rw [if_neg (by omega), if_neg (by omega)]

theorem splice_get_inside (l v : Bytes) (off i : Nat) (h : off ≤ l.length) (hi : i < v.length) :
    (splice l off v)[off + i]? = v[i]? := by
  rw [splice_get _ _ _ _ h, if_neg (by omega), if_pos (by omega), Nat.add_sub_cancel_left]

theorem splice_drop_take (l v : Bytes) (off : Nat) (h : off ≤ l.length) : ((splice l off v).drop off).take v.length = v := by
  rw [splice, List.append_assoc, List.drop_left' (List.length_take_of_le h)]
  exact List.take_left' rfl

theorem le_splice_length (l v : Bytes) (off : Nat) (h : off ≤ l.length) :
    off + v.length ≤ (splice l off v).length := by
  rw [splice, List.length_append, List.length_append, List.length_take_of_le h]
  exact Nat.le_add_right _ _

theorem splice_nil (l : Bytes) (off : Nat) : splice l off [] = l := by simp [splice]

theorem splice_mid (pre old v post : Bytes) (h : old.length = v.length) :
    splice (pre ++ old ++ post) pre.length v = pre ++ v ++ post := by
  unfold splice
  rw [List.append_assoc pre old post, List.take_left' rfl, ← h, ← List.length_append,
    ← List.append_assoc, List.drop_left' rfl]

theorem splice_append (l a b : Bytes) (off : Nat) (h : off ≤ l.length) {n : Nat} (hn : a.length = n) :
    splice (splice l off a) (off + n) b = splice l off (a ++ b) := by
  subst hn
  have hl : (l.take off ++ a).length = off + a.length := by simp; omega
  unfold splice
  rw [List.take_left' hl, ← List.drop_drop, List.drop_left' hl, List.drop_drop, List.length_append,
    List.append_assoc (l.take off) a b, Nat.add_assoc]

theorem splice_take_of_le (l v : Bytes) (off n : Nat) (h : off ≤ l.length) (hn : n ≤ off) :
    (splice l off v).take n = l.take n := by
  unfold splice
  rw [List.append_assoc, List.take_append_of_le_length (by rw [List.length_take]; omega), List.take_take,
    Nat.min_eq_left hn]

theorem splice_splice (l v w : Bytes) (off p : Nat) (h : off ≤ l.length) (hp : p + w.length ≤ v.length) :
    splice (splice l off v) (off + p) w = splice l off (splice v p w) := by
  obtain ⟨v1, v2, v3, rfl, h1, h2⟩ : ∃ v1 v2 v3, v = v1 ++ v2 ++ v3 ∧ v1.length = p ∧ v2.length = w.length :=
    ⟨v.take p, (v.drop p).take w.length, v.drop (p + w.length),
      by rw [List.append_assoc, ← List.drop_drop, List.take_append_drop, List.take_append_drop],
      by simp; omega, by simp; omega⟩
  subst h1
  have hl : off + v1.length = (l.take off ++ v1).length := by simp [h]
  have e : splice l off (v1 ++ v2 ++ v3) =
      (l.take off ++ v1) ++ v2 ++ (v3 ++ l.drop (off + (v1 ++ v2 ++ v3).length)) := by
    simp [splice]
  rw [splice_mid v1 v2 w v3 h2, e, hl, splice_mid _ v2 w _ h2]
  simp [splice, h2]

theorem Buf.writeAt_splice (b : Buf) (off : Nat) (v : Bytes) (h : off + v.length ≤ b.inner.length) :
    b.writeAt off v = some ⟨splice b.inner off v⟩ := Buf.writeAt_inbounds b off v h

theorem asU32_of_lt {x : Nat} (h : x < 2 ^ 32) : asU32 x = x := Nat.mod_eq_of_lt h

theorem flatten_length_of_all (vs : List Bytes) (sz : Nat) (hv : ∀ v ∈ vs, v.length = sz) :
    vs.flatten.length = vs.length * sz := by
  induction vs with
  | nil => simp
  | cons d ds ihd =>
    have := ihd (fun x hx => hv x (by simp [hx]))
    simp [Nat.add_mul, *]; omega

theorem Buf.writeAt_mid (pre old v post : Bytes) (h : old.length = v.length) :
    Buf.writeAt ⟨pre ++ old ++ post⟩ pre.length v = some ⟨pre ++ v ++ post⟩ := by
  rw [Buf.writeAt_splice _ _ _ (by simp only [List.length_append]; omega), splice_mid _ _ _ _ h]

theorem asU32_len {b : Buf} {n : Nat} (hb : b.len + n < 2 ^ 32) : asU32 b.inner.length = b.len :=
  asU32_of_lt (Nat.lt_of_le_of_lt (Nat.le_add_right _ _) hb)

theorem Buf.len_app (b : Buf) (v : Bytes) : (⟨b.inner ++ v⟩ : Buf).len = b.len + v.length :=
  List.length_append

theorem Slot.alloc_eq (b : Buf) (sz : Nat) (hb : b.len + sz < 2 ^ 32) :
    Slot.alloc b sz = (⟨b.inner ++ zeros sz⟩, ⟨b.len, sz⟩) := by
  simp only [Slot.alloc, Buf.reserve, asU32_len hb]

theorem Slot.allocWithVal_eq (b : Buf) (v : Bytes) (hb : b.len + v.length < 2 ^ 32) :
    Slot.allocWithVal b v = some (⟨b.inner ++ v⟩, ⟨b.len, v.length⟩) := by
  simp only [Slot.allocWithVal, Buf.write_spec, Buf.position, asU32_len hb]

theorem Arr.writeBytes_eq (b : Buf) (bs : Bytes) (hb : b.len + bs.length < 2 ^ 32) :
    Arr.writeBytes b bs = (⟨b.inner ++ bs⟩, ⟨b.len, bs.length, 1⟩) := by
  simp only [Arr.writeBytes, Buf.writeAll, Buf.position, asU32_len hb]

theorem Arr.allocArray_eq (b : Buf) (n sz : Nat) (hb : b.len + n * sz < 2 ^ 32) :
    Arr.allocArray b n sz = (⟨b.inner ++ zeros (n * sz)⟩, ⟨b.len, n, sz⟩) := by
  simp only [Arr.allocArray, Buf.reserve, asU32_len hb]

theorem Slot.location_of_fit {p sz : Nat} (h : p + sz < 2 ^ 32) :
    Slot.location ⟨p, sz⟩ = ⟨sz, p⟩ := by
  simp only [Slot.location, asU32_of_lt (Nat.lt_of_le_of_lt (Nat.le_add_left _ _) h)]

theorem Arr.location_of_fit {p n sz : Nat} (h : p + n * sz < 2 ^ 32) :
    Arr.location ⟨p, n, sz⟩ = ⟨n * sz, p⟩ := by
  simp only [Arr.location, asU32_of_lt (Nat.lt_of_le_of_lt (Nat.le_add_left _ _) h)]

theorem Arr.location_bytes {p n : Nat} (h : p + n < 2 ^ 32) :
    Arr.location ⟨p, n, 1⟩ = ⟨n, p⟩ := by
  rw [Arr.location_of_fit (by rw [Nat.mul_one]; exact h), Nat.mul_one]

theorem Arr.fillFrom_splice (b : Buf) (pos sz k : Nat) (vs : List Bytes) (hv : ∀ v ∈ vs, v.length = sz)
    (h : pos + k * sz + vs.flatten.length ≤ b.len) :
    Arr.fillFrom b pos sz k vs = some ⟨splice b.inner (pos + k * sz) vs.flatten⟩ := by
  induction vs generalizing b k with
  | nil => rw [List.flatten_nil, splice_nil]; rfl
  | cons v vs ih =>
    obtain rfl : v.length = sz := hv v (List.mem_cons_self ..)
    rw [List.flatten_cons, List.length_append, ← Nat.add_assoc] at h
    have hin : pos + k * v.length + v.length ≤ b.inner.length := Nat.le_trans (Nat.le_add_right _ _) h
    rw [Arr.fillFrom, Buf.writeAt_splice b _ v hin]
    simp only
    rw [ih _ (k + 1) (fun x hx => hv x (List.mem_cons_of_mem _ hx)), Nat.succ_mul, ← Nat.add_assoc,
      splice_append _ _ _ _ (Nat.le_trans (Nat.le_add_right _ _) hin) rfl, List.flatten_cons]
    rw [Buf.len, splice_length _ _ _ hin, Nat.succ_mul, ← Nat.add_assoc]
    exact h

theorem Arr.fillFrom_fresh (pre : Bytes) (vs : List Bytes) (sz : Nat)
    (hv : ∀ v ∈ vs, v.length = sz) :
    Arr.fillFrom ⟨pre ++ zeros (vs.length * sz)⟩ pre.length sz 0 vs = some ⟨pre ++ vs.flatten⟩ := by
  have hl := flatten_length_of_all vs sz hv
  rw [Arr.fillFrom_splice _ _ _ _ _ hv (by simp [Buf.len, hl, zeros_length]), Nat.zero_mul, Nat.add_zero,
    ← List.append_nil (pre ++ zeros _), splice_mid _ _ _ _ ((zeros_length _).trans hl.symm), List.append_nil]

theorem Arr.allocFromArray_eq (b : Buf) (vs : List Bytes) (sz : Nat)
    (hv : ∀ v ∈ vs, v.length = sz) (hb : b.len + vs.length * sz < 2 ^ 32) :
    Arr.allocFromArray b vs sz = some (⟨b.inner ++ vs.flatten⟩, ⟨b.len, vs.length, sz⟩) := by
  simp only [Arr.allocFromArray, Buf.reserve, Arr.fillFrom_fresh b.inner vs sz hv, asU32_len hb]

theorem Buf.writeAt_len_le (b b' : Buf) (off : Nat) (v : Bytes) (h : b.writeAt off v = some b') : b.len ≤ b'.len := by
  unfold Buf.writeAt at h
  split at h
  · cases h
  · cases h
    simp only [Buf.len, List.length_append, List.length_take, List.length_drop]
    split
    · rw [List.length_append, zeros_length]; omega
    · omega

theorem Arr.setValueAt_len {a : Arr} {b b' : Buf} {v : Bytes} {idx : Nat} (h : a.position + a.sz * idx + v.length ≤ b.len)
    (hs : a.setValueAt b v idx = some b') : b'.len = b.len := by
  rw [Arr.setValueAt, Buf.writeAt_splice _ _ _ h] at hs
  cases hs
  exact splice_length _ _ _ h

end Mdw
