/-
  `Outcome` as a monad of results: what a successful `bind` consists of, `settled` (a result or an error return) through
  `bind`, and the indexed traversal `forIdx` that both gathering loops are (`f` on every element with its list position,
  the first failure aborts).
-/
import MdwModel.Prelude
namespace Mdw
namespace Outcome

def settled {α : Type} : Outcome α → Prop
  | .ok _ => True
  | .err _ => True
  | _ => False

variable {α β : Type} {x : Outcome α}

theorem bind_eq_ok {f : α → Outcome β} {b : β} :
    x.bind f = .ok b ↔ ∃ a, x = .ok a ∧ f a = .ok b := by
  cases x <;> simp [bind]

theorem settled_of_isOk (h : x.isOk = true) : x.settled := by
  cases x with
  | ok a => trivial
  | _ => cases h

theorem settled_bind {f : α → Outcome β} (hx : x.settled)
    (hf : ∀ a, x = .ok a → (f a).settled) : (x.bind f).settled := by
  cases x with
  | ok a => exact hf a rfl
  | err c => trivial
  | panic w => exact hx
  | fuelOut => exact hx

def forIdx (f : Nat → α → Outcome β) : Nat → List α → Outcome (List β)
  | _, [] => .ok []
  | i, a :: as => (f i a).bind fun b => (forIdx f (i + 1) as).bind fun bs => .ok (b :: bs)

theorem forIdx_ok {f : Nat → α → Outcome β} {i0 : Nat} {as : List α} {bs : List β}
    (h : forIdx f i0 as = .ok bs) :
    bs.length = as.length ∧ ∀ k a, as[k]? = some a → ∃ b, bs[k]? = some b ∧ f (i0 + k) a = .ok b := by
  induction as generalizing i0 bs with
  | nil =>
    cases h
    exact ⟨rfl, fun k a hk => by simp at hk⟩
  | cons a as ih =>
    obtain ⟨b, hb, h⟩ := bind_eq_ok.mp h
    obtain ⟨bs', hbs, h⟩ := bind_eq_ok.mp h
    cases h
    obtain ⟨hl, hget⟩ := ih hbs
    refine ⟨by simp [hl], fun k a' hk => ?_⟩
    cases k with
    | zero =>
      cases hk
      exact ⟨b, rfl, hb⟩
    | succ k =>
      obtain ⟨b', h1, h2⟩ := hget k a' hk
      exact ⟨b', h1, by rw [← h2, Nat.add_right_comm, Nat.add_assoc]⟩

theorem forIdx_settled {f : Nat → α → Outcome β} {as : List α} (i0 : Nat)
    (h : ∀ i, ∀ a ∈ as, (f i a).settled) : (forIdx f i0 as).settled := by
  induction as generalizing i0 with
  | nil => trivial
  | cons a as ih =>
    exact settled_bind (h i0 a (by simp)) fun b _ =>
      settled_bind (ih (i0 + 1) fun i a' ha' => h i a' (by simp [ha'])) fun _ _ => trivial

end Outcome
end Mdw
