/- The dumper script (Model/Ptrace.lean) by its equations: one re-injected signal, one more thread, and
   `suspend_threads` as a whole — the attach sequences one after the other, `retain` a filter — and the phases of a
   whole request (`dumpTrace_phases`). -/
import MdwModel.Model.Ptrace
namespace Mdw

theorem reinject_cons (t s : Nat) (r : List Nat) :
    reinject t (s :: r) = .sigSeen t s :: .cont t s :: reinject t r := rfl

theorem mem_reinject {t : Nat} {sigs : List Nat} {a : Action} :
    a ∈ reinject t sigs ↔ ∃ s ∈ sigs, a = .sigSeen t s ∨ a = .cont t s := by
  simp only [reinject, List.mem_flatMap, List.mem_cons, List.not_mem_nil, or_false]

theorem suspendAll_cons (p : Nat × AttachOutcome) (rest : List (Nat × AttachOutcome)) :
    suspendAll (p :: rest) = ((suspendThread p.1 p.2).1 ++ (suspendAll rest).1,
      (if (suspendThread p.1 p.2).2 then [p.1] else []) ++ (suspendAll rest).2) := by
  cases h : (suspendThread p.1 p.2).2 <;> simp only [suspendAll, h] <;> rfl

theorem suspendAll_eq (ths : List (Nat × AttachOutcome)) :
    suspendAll ths = (ths.flatMap fun p => (suspendThread p.1 p.2).1,
      (ths.filter fun p => (suspendThread p.1 p.2).2).map (·.1)) := by
  induction ths with
  | nil => rfl
  | cons p rest ih =>
    rw [suspendAll_cons, ih, List.flatMap_cons, List.filter_cons]
    cases (suspendThread p.1 p.2).2 <;> rfl

/-- `he`: the request got past `init`. The remaining endings differ in the number `k` of memory reads only. -/
theorem dumpTrace_phases (stopSent : Bool) (ths : List (Nat × AttachOutcome)) (e : Ending)
    (he : e ≠ .sameProcess ∧ e ≠ .initFails) :
    ∃ k, dumpTrace stopSent ths e = ((if stopSent then [.killStop] else []) ++ (suspendAll ths).1 ++
      capture (suspendAll ths).2 k) ++ ((suspendAll ths).2.map Action.detach ++ [.killCont]) := by
  cases e with
  | sameProcess => exact absurd rfl he.1
  | initFails => exact absurd rfl he.2
  | duringStreams k => exact ⟨k, by simp only [dumpTrace, List.append_assoc]⟩
  | afterResume => exact ⟨3, by simp only [dumpTrace, List.append_assoc]⟩
  | completes => exact ⟨3, by simp only [dumpTrace, List.append_assoc]⟩

end Mdw
