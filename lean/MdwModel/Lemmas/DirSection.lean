/-
  The destination under any script of answers: whatever is answered, `write_all` and `dump_dir_entry` leave the
  content a `splice` of a prefix of what they were to write, and of all of it when they return `Ok`.
-/
import MdwModel.Model.DirSection
import MdwModel.Lemmas.Buffer
namespace Mdw

namespace Dest

theorem put_pos (d : Dest) (bs : Bytes) : (d.put bs).pos = d.pos + bs.length := by simp [put]
theorem put_calls (d : Dest) (bs : Bytes) : (d.put bs).calls = d.calls := by simp [put]

theorem put_splice (d : Dest) (bs : Bytes) (h : d.pos ≤ d.content.length) :
    (d.put bs).content = splice d.content d.pos bs := by
  simp [put, Nat.not_lt.mpr h, splice]

theorem put_length (d : Dest) (bs : Bytes) (h : d.pos ≤ d.content.length) :
    (d.put bs).content.length = max d.content.length (d.pos + bs.length) := by
  rw [put_splice d bs h, splice, List.length_append, List.length_append, List.length_take_of_le h, List.length_drop]
  omega

theorem streamPosition_eq (sc : Script) (d : Dest) :
    d.streamPosition sc = ({ d with calls := d.calls + 1 }, if sc d.calls = .fail then none else some d.pos) := by
  unfold streamPosition
  split <;> simp_all

theorem seek_eq (sc : Script) (d : Dest) (n : Nat) :
    d.seek sc n = if sc d.calls = .fail then ({ d with calls := d.calls + 1 }, false)
      else ({ d with pos := n, calls := d.calls + 1 }, true) := by
  unfold seek
  split <;> simp_all

theorem writeAllFuel_ok {sc : Script} {d : Dest} (fuel : Nat) (b : UInt8) (bs : Bytes) (h : sc d.calls = .ok) :
    writeAllFuel sc (fuel + 1) d (b :: bs) = ({ d.put (b :: bs) with calls := d.calls + 1 }, true) := by
  simp [writeAllFuel, h]

theorem writeAllFuel_fail {sc : Script} {d : Dest} (fuel : Nat) (b : UInt8) (bs : Bytes)
    (h : sc d.calls = .fail ∨ sc d.calls = .short 0) :
    writeAllFuel sc (fuel + 1) d (b :: bs) = ({ d with calls := d.calls + 1 }, false) := by
  rcases h with h | h <;> simp [writeAllFuel, h]

theorem writeAllFuel_short {sc : Script} {d : Dest} (fuel : Nat) (b : UInt8) (bs : Bytes) {m : Nat}
    (h : sc d.calls = .short m) (hm : m ≠ 0) :
    writeAllFuel sc (fuel + 1) d (b :: bs) =
      writeAllFuel sc fuel { d.put ((b :: bs).take (min m (b :: bs).length)) with calls := d.calls + 1 }
        ((b :: bs).drop (min m (b :: bs).length)) := by
  simp [writeAllFuel, h, hm]

/-- Short writes only make the stored prefix grow call by call (`splice_append`). -/
theorem writeAllFuel_splice (sc : Script) (fuel : Nat) (d : Dest) (bs : Bytes)
    (h : d.pos ≤ d.content.length) (hf : bs.length < fuel) :
    ∃ k, k ≤ bs.length ∧ (writeAllFuel sc fuel d bs).1.content = splice d.content d.pos (bs.take k) ∧
      (writeAllFuel sc fuel d bs).1.pos = d.pos + k ∧
      ((writeAllFuel sc fuel d bs).2 = true → k = bs.length) := by
  induction fuel generalizing d bs with
  | zero => exact absurd hf (Nat.not_lt_zero _)
  | succ fuel ih =>
    cases bs with
    | nil => exact ⟨0, Nat.le_refl _, (splice_nil _ _).symm, rfl, fun _ => rfl⟩
    | cons b bs =>
      cases hsc : sc d.calls with
      | ok =>
        rw [writeAllFuel_ok fuel b bs hsc]
        exact ⟨_, Nat.le_refl _, by rw [List.take_length]; exact put_splice d _ h, put_pos d _, fun _ => rfl⟩
      | fail =>
        rw [writeAllFuel_fail fuel b bs (.inl hsc)]
        exact ⟨0, Nat.zero_le _, (splice_nil _ _).symm, rfl, Bool.noConfusion⟩
      | short m =>
        by_cases hm : m = 0
        · rw [writeAllFuel_fail fuel b bs (.inr (hm ▸ hsc))]
          exact ⟨0, Nat.zero_le _, (splice_nil _ _).symm, rfl, Bool.noConfusion⟩
        · rw [writeAllFuel_short fuel b bs hsc hm]
          generalize hk : min m (b :: bs).length = k1
          have hk1 : 0 < k1 ∧ k1 ≤ (b :: bs).length :=
            hk ▸ ⟨Nat.lt_min.mpr ⟨Nat.pos_of_ne_zero hm, Nat.succ_pos _⟩, Nat.min_le_right _ _⟩
          generalize b :: bs = l at *
          have hl : (l.take k1).length = k1 := List.length_take_of_le hk1.2
          have h1 : (d.put (l.take k1)).pos ≤ (d.put (l.take k1)).content.length := by
            rw [put_pos, put_length d _ h]; exact Nat.le_max_right _ _
          obtain ⟨k', hk', hc, hp, hok⟩ := ih { d.put (l.take k1) with calls := d.calls + 1 }
            (l.drop k1) h1 (by rw [List.length_drop]; omega)
          rw [List.length_drop] at hk' hok
          simp only [put_splice d _ h, put_pos, hl] at hc hp hok ⊢
          refine ⟨k1 + k', by omega, ?_, hp.trans (Nat.add_assoc ..), fun hr => ?_⟩
          · rw [hc, List.take_add, splice_append _ _ _ _ h hl]
          · have := hok hr; omega

theorem writeAll_splice (sc : Script) (d : Dest) (bs : Bytes) (h : d.pos ≤ d.content.length) :
    ∃ k, k ≤ bs.length ∧ (d.writeAll sc bs).1.content = splice d.content d.pos (bs.take k) ∧
      (d.writeAll sc bs).1.pos = d.pos + k ∧ ((d.writeAll sc bs).2 = true → k = bs.length) :=
  writeAllFuel_splice sc (bs.length + 1) d bs h (Nat.lt_succ_self _)

end Dest

/-- `hle`: the slice `&buffer[last_written..]` of `write_to_file` is in range. -/
theorem writeToFile_eq (sc : Script) (s : DS) (e : Option Bytes) (hle : s.dir.lastWritten ≤ s.buf.len) :
    writeToFile sc s e =
      if (s.dest.writeAll sc (s.buf.inner.drop s.dir.lastWritten)).2 then
        match e with
        | none => some (⟨s.buf, (s.dest.writeAll sc (s.buf.inner.drop s.dir.lastWritten)).1,
            { s.dir with lastWritten := s.buf.len }⟩, true)
        | some e => dumpDirEntry sc ⟨s.buf, (s.dest.writeAll sc (s.buf.inner.drop s.dir.lastWritten)).1,
            { s.dir with lastWritten := s.buf.len }⟩ e
      else some (⟨s.buf, (s.dest.writeAll sc (s.buf.inner.drop s.dir.lastWritten)).1, s.dir⟩, false) := by
  unfold writeToFile
  rw [if_neg (Nat.not_lt.mpr hle)]
  generalize s.dest.writeAll sc (s.buf.inner.drop s.dir.lastWritten) = r
  obtain ⟨d1, ok⟩ := r
  cases ok <;> rfl

theorem dumpDirEntry_dest (sc : Script) (s : DS) (e b1 : Bytes) (P n : Nat)
    (hset : s.dir.sec.setValueAt s.buf e s.dir.currIdx = some ⟨b1⟩)
    (hloc : s.dir.sec.locationOfIndex s.dir.currIdx = some ⟨n, P⟩)
    (hin : P + n ≤ b1.length) (hSP : s.dir.startOff + P ≤ s.dest.content.length) :
    ∃ d' i ok k, dumpDirEntry sc s e = some (⟨⟨b1⟩, d', { s.dir with currIdx := i }⟩, ok) ∧ k ≤ n ∧
      d'.content = splice s.dest.content (s.dir.startOff + P) (((b1.drop P).take n).take k) ∧
      (ok = true → k = n ∧ d'.pos = s.dest.pos ∧ i = s.dir.currIdx + 1) := by
  have nothing : s.dest.content = splice s.dest.content (s.dir.startOff + P) (((b1.drop P).take n).take 0) := by
    rw [List.take_zero, splice_nil]
  unfold dumpDirEntry
  simp only [hset, hloc, Dest.streamPosition_eq, Dest.seek_eq]
  by_cases hf1 : sc s.dest.calls = .fail
  · simp only [hf1, if_true]
    exact ⟨_, s.dir.currIdx, false, 0, rfl, Nat.zero_le _, nothing, nofun⟩
  by_cases hf2 : sc (s.dest.calls + 1) = .fail
  · simp only [hf1, hf2, if_true, if_false, Bool.not_false]
    exact ⟨_, _, false, 0, rfl, Nat.zero_le _, nothing, nofun⟩
  simp only [hf1, hf2, if_false, Bool.not_true, Bool.false_eq_true, Buf.len, Nat.not_lt.mpr hin]
  obtain ⟨k, hk, hc, hp, hok⟩ := Dest.writeAll_splice sc
    { s.dest with pos := s.dir.startOff + P, calls := s.dest.calls + 1 + 1 } ((b1.drop P).take n) hSP
  have hk' : k ≤ n := Nat.le_trans hk (List.length_take_le _ _)
  generalize ({ s.dest with pos := s.dir.startOff + P, calls := s.dest.calls + 1 + 1 } : Dest).writeAll sc
    ((b1.drop P).take n) = r at hc hp hok ⊢
  obtain ⟨d3, ok3⟩ := r
  cases ok3 with
  | false => exact ⟨d3, _, false, k, rfl, hk', hc, nofun⟩
  | true =>
    have hkn : k = n := (hok rfl).trans (List.length_take_of_le (by rw [List.length_drop]; omega))
    by_cases hf4 : sc d3.calls = .fail
    · simp only [hf4, if_true]
      exact ⟨_, _, false, k, rfl, hk', hc, nofun⟩
    · simp only [hf4, if_false]
      exact ⟨_, _, true, k, rfl, hk', hc, fun _ => ⟨hkn, rfl, rfl⟩⟩

end Mdw
