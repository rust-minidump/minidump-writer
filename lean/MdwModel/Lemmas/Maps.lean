/-
  The Boolean chain predicates of the maps model (`linesOk`, `sortedDisjoint`) as `List.Pairwise`, and the loop of
  `aggregate` with ghost blocks: beside every mapping of the accumulator stand the lines merged into it
  (`GM`). `GOk` is what a block knows of its mapping, `GInv` the loop invariant. `aggStep_ghost` supplies the blocks
  of the next accumulator, so the invariant is proved of the model's own `aggStep`.
-/
import MdwModel.Pred.C13
import MdwModel.Lemmas.Ascending
namespace Mdw

/-- adjacent lines in the definition, all pairs here, since `s < e` -/
theorem linesOk_iff (ls : List MLine) :
    linesOk ls = true ↔ ls.Pairwise (fun a b => a.e ≤ b.s) ∧ ∀ l ∈ ls, l.s < l.e := by
  induction ls with
  | nil => simp [linesOk]
  | cons a r ih =>
    cases r with
    | nil => simp [linesOk]
    | cons b r' =>
      simp only [linesOk, Bool.and_eq_true, decide_eq_true_eq, ih, List.pairwise_cons, List.forall_mem_cons]
      constructor
      · rintro ⟨⟨ha, hab⟩, ⟨hb, hp⟩, hb0, hr⟩
        exact ⟨⟨⟨hab, fun c hc => Nat.le_trans hab (Nat.le_trans (Nat.le_of_lt hb0) (hb c hc))⟩, hb, hp⟩,
          ha, hb0, hr⟩
      · rintro ⟨⟨⟨hab, _⟩, hb, hp⟩, ha, hb0, hr⟩
        exact ⟨⟨ha, hab⟩, ⟨hb, hp⟩, hb0, hr⟩

theorem sortedDisjoint_iff (out : List Mapping) :
    sortedDisjoint out = true ↔ out.Pairwise (fun a b => a.end_ ≤ b.start) ∧ ∀ m ∈ out, 0 < m.size := by
  induction out with
  | nil => simp [sortedDisjoint]
  | cons a r ih =>
    cases r with
    | nil => simp [sortedDisjoint]
    | cons b r' =>
      simp only [sortedDisjoint, Bool.and_eq_true, decide_eq_true_eq, ih, List.pairwise_cons, List.forall_mem_cons]
      constructor
      · rintro ⟨⟨ha, hab⟩, ⟨hb, hp⟩, hb0, hr⟩
        exact ⟨⟨⟨hab, fun c hc => Nat.le_trans hab (Nat.le_trans (Nat.le_add_right _ _) (hb c hc))⟩, hb, hp⟩,
          ha, hb0, hr⟩
      · rintro ⟨⟨⟨hab, _⟩, hb, hp⟩, ha, hb0, hr⟩
        exact ⟨⟨ha, hab⟩, ⟨hb, hp⟩, hb0, hr⟩

theorem linesOk_eq_of_start (ls : List MLine) (h : linesOk ls = true) (a b : MLine) (ha : a ∈ ls)
    (hb : b ∈ ls) (hs : a.s = b.s) : a = b := by
  rw [linesOk_iff] at h
  exact eq_of_overlap h.1 ha hb ⟨Nat.le_refl _, h.2 a ha⟩ ⟨Nat.le_of_eq hs.symm, hs ▸ h.2 b hb⟩

theorem hullOk_cons (gate : Option Nat) (ls : List MLine) (m : Mapping) (ms : List Mapping) :
    hullOk gate ls (m :: ms) = (blockOk gate m (ls.takeWhile (fun l => l.e ≤ m.end_)) &&
      hullOk gate (ls.dropWhile (fun l => l.e ≤ m.end_)) ms) := by
  cases ls <;> rfl

theorem effNameOff_gate {g : Nat} {l : MLine} (hs : l.s = g) (hp : isPathName (pathnameOf l.path) = false) :
    effNameOff (some g) l = (some LINUX_GATE, 0) := by
  simp [effNameOff, hs, hp]

theorem rule3_iff {pp prev : Mapping} {s : Nat} {name : Option Bytes} :
    rule3 pp prev s name = true ↔ pp.nameIsPath = true ∧ pp.end_ = prev.start ∧ prev.isEmptyPage = true ∧
      prev.end_ = s ∧ name = pp.name := by
  simp only [rule3, Bool.and_eq_true, beq_iff_eq, and_assoc]

variable {gate : Option Nat}

/-- ghost-instrumented mapping: the lines merged into it, oldest first -/
structure GM where
  m : Mapping
  blk : List MLine

structure GOk (gate : Option Nat) (g : GM) : Prop where
  head : ∃ f rest, g.blk = f :: rest ∧ g.m.start = f.s ∧ g.m.name = (effNameOff gate f).1 ∧
          g.m.offset = (effNameOff gate f).2 ∧ (rest = [] → g.m.perms = f.perms)
  last : ∃ l, g.blk.getLast? = some l ∧ g.m.end_ = l.e
  contig : contiguous g.blk = true
  sys : g.m.sysStart = g.m.start ∧ g.m.sysEnd ≤ g.m.end_
  pos : g.m.start < g.m.end_
  exec : g.m.perms.testBit 2 = g.blk.any (fun x => x.perms.testBit 2)
  within : ∀ l ∈ g.blk, g.m.start ≤ l.s ∧ l.e ≤ g.m.end_ ∧ l.s < l.e
  reasons : ∀ i, 0 < i → i < g.blk.length → mergeReason gate g.m g.blk i = true

theorem contiguous_append_list (blk xs : List MLine) (l x : MLine) (hc : contiguous blk = true)
    (hl : blk.getLast? = some l) (hx : xs.head? = some x) (he : l.e = x.s)
    (hcx : contiguous xs = true) : contiguous (blk ++ xs) = true := by
  induction blk with
  | nil => simp at hl
  | cons a rest ih =>
    cases rest with
    | nil =>
      obtain rfl : a = l := by simpa using hl
      cases xs with
      | nil => simp at hx
      | cons y ys =>
        obtain rfl : y = x := by simpa using hx
        simp [contiguous, he, hcx]
    | cons b rest' =>
      simp only [contiguous, Bool.and_eq_true] at hc
      simpa [contiguous, hc.1] using ih hc.2 (by simpa using hl)

theorem contiguous_append (blk : List MLine) (l ln : MLine) (hc : contiguous blk = true)
    (hl : blk.getLast? = some l) (he : l.e = ln.s) : contiguous (blk ++ [ln]) = true :=
  contiguous_append_list blk [ln] l ln hc hl rfl he rfl

theorem mergeReason_append {m m' : Mapping} {blk : List MLine} (xs : List MLine) {i : Nat}
    (hname : m'.name = m.name) (hi : i < blk.length) (h : mergeReason gate m blk i = true) :
    mergeReason gate m' (blk ++ xs) i = true := by
  unfold mergeReason at *
  rw [List.getElem?_append_left hi, List.take_append_of_le_length (by omega)]
  rw [List.getElem?_eq_getElem hi] at h ⊢
  simp only [reasonAt, sameName, hname] at h ⊢
  by_cases hi1 : i + 1 < blk.length
  · rwa [List.getElem?_append_left hi1]
  · -- the line was the block's last: it had no successor to appeal to
    rw [List.getElem?_eq_none (by omega)] at h
    simp only [Bool.and_false, Bool.or_false] at h
    rw [Bool.or_eq_true]
    exact Or.inl h

theorem mergeReason_append_cons (m : Mapping) (blk : List MLine) (l : MLine) (tl : List MLine) :
    mergeReason gate m (blk ++ l :: tl) blk.length = reasonAt gate m blk l tl.head? := by
  have h : (blk ++ l :: tl)[blk.length + 1]? = tl.head? := by
    rw [List.getElem?_append_right (by omega), List.head?_eq_getElem?]
    simp
  simp [mergeReason, h]

theorem reasonAt_sameName {m : Mapping} {l : MLine} (pre : List MLine) (next : Option MLine)
    (h : sameName gate m l = true) : reasonAt gate m pre l next = true := by
  simp [reasonAt, h]

theorem reasonAt_afterExec {m : Mapping} {pre : List MLine} {l : MLine} (next : Option MLine)
    (hp : l.perms = PERM_PRIVATE) (hn : isPathName m.name = true) (hx : pre.any (fun x => x.perms.testBit 2) = true) :
    reasonAt gate m pre l next = true := by
  simp only [List.any_eq_true] at hx
  simp [reasonAt, hp, hn, hx]

theorem reasonAt_gap {m : Mapping} (pre : List MLine) {l n : MLine}
    (h1 : (effNameOff gate l).1 = none) (hp : l.perms = PERM_PRIVATE) (h0 : (effNameOff gate l).2 = 0)
    (hn : isPathName m.name = true) (hs : sameName gate m n = true) :
    reasonAt gate m pre l (some n) = true := by
  simp [reasonAt, h1, hp, h0, hn, hs]

theorem sameName_of_eq {m : Mapping} {l : MLine} (h : (effNameOff gate l).1 = m.name)
    (hs : m.name.isSome = true) : sameName gate m l = true := by
  simp [sameName, h, hs]

theorem isSome_of_isPathName {n : Option Bytes} (h : isPathName n = true) : n.isSome = true := by
  cases n with
  | none => simp [isPathName] at h
  | some _ => rfl

/-- what a merging rule leaves of the mapping it extends: it now ends at `e` -/
def Mapping.grow (m : Mapping) (e sysEnd perms : Nat) : Mapping :=
  { m with sysEnd := sysEnd, size := e - m.start, perms := perms }

theorem Mapping.grow_end {m : Mapping} {e : Nat} (h : m.start ≤ e) (sysEnd perms : Nat) :
    (m.grow e sysEnd perms).end_ = e := by
  simp only [Mapping.grow, Mapping.end_]; omega

theorem GOk.grow {g : GM} (hg : GOk gate g) (xs : List MLine) (x lx : MLine) (se p : Nat)
    (hx : xs.head? = some x) (hlx : xs.getLast? = some lx)
    (hxs : x.s = g.m.end_) (hcx : contiguous xs = true)
    (hwx : ∀ l ∈ xs, g.m.end_ ≤ l.s ∧ l.e ≤ lx.e ∧ l.s < l.e) (hse : se ≤ lx.e)
    (hexec : p.testBit 2 = (g.m.perms.testBit 2 || xs.any (fun y => y.perms.testBit 2)))
    (hreason : ∀ j, j < xs.length → mergeReason gate (g.m.grow lx.e se p) (g.blk ++ xs) (g.blk.length + j) = true) :
    GOk gate ⟨g.m.grow lx.e se p, g.blk ++ xs⟩ := by
  obtain ⟨⟨f, rest, hblk, hs, hn, ho, -⟩, ⟨l, hl, hle⟩, hc, hsy, hpos, hex, hw, hr⟩ := hg
  have hlxe := hwx lx (List.mem_of_getLast? hlx)
  have hee : g.m.end_ ≤ lx.e := Nat.le_trans hlxe.1 (Nat.le_of_lt hlxe.2.2)
  have hlt : g.m.start < lx.e := Nat.lt_of_lt_of_le hpos hee
  have hend : (g.m.grow lx.e se p).end_ = lx.e := Mapping.grow_end (Nat.le_of_lt hlt) se p
  refine ⟨⟨f, rest ++ xs, by simp [hblk], hs, hn, ho, fun h => ?_⟩, ⟨lx, by simp [hlx], hend⟩,
    contiguous_append_list g.blk xs l x hc hl hx (hle.symm.trans hxs.symm) hcx, ⟨hsy.1, hend.symm ▸ hse⟩,
    hend.symm ▸ hlt, ?_, ?_, ?_⟩
  · rw [(List.append_eq_nil_iff.mp h).2] at hx; cases hx
  · show p.testBit 2 = _
    rw [hexec, hex, List.any_append]
  · intro y hy
    show g.m.start ≤ y.s ∧ y.e ≤ (g.m.grow lx.e se p).end_ ∧ y.s < y.e
    rw [hend]
    rcases List.mem_append.mp hy with hy | hy
    · exact ⟨(hw y hy).1, Nat.le_trans (hw y hy).2.1 hee, (hw y hy).2.2⟩
    · exact ⟨Nat.le_trans (Nat.le_of_lt hpos) (hwx y hy).1, (hwx y hy).2⟩
  · intro i hi0 hi
    by_cases hib : i < g.blk.length
    · exact mergeReason_append xs rfl hib (hr i hi0 hib)
    · obtain ⟨j, rfl⟩ := Nat.exists_eq_add_of_le (Nat.le_of_not_lt hib)
      exact hreason j (by simpa using hi)

theorem getLast?_append_single {α} (l : List α) (a : α) : (l ++ [a]).getLast? = some a :=
  List.getLast?_concat

theorem mkMapping_end (s e off perms : Nat) (name : Option Bytes) (h : s < e) :
    (mkMapping s e off perms name).end_ = e := by
  simp [mkMapping, Mapping.end_]; omega

theorem GOk_fresh (ln : MLine) (h : ln.s < ln.e) :
    GOk gate ⟨mkMapping ln.s ln.e (effNameOff gate ln).2 ln.perms (effNameOff gate ln).1, [ln]⟩ := by
  have he := mkMapping_end ln.s ln.e (effNameOff gate ln).2 ln.perms (effNameOff gate ln).1 h
  refine ⟨⟨ln, [], rfl, rfl, rfl, rfl, fun _ => rfl⟩, ⟨ln, rfl, he⟩, rfl, ⟨rfl, Nat.le_of_eq he.symm⟩,
    Nat.lt_of_lt_of_eq h he.symm, by simp [mkMapping],
    List.forall_mem_singleton.mpr ⟨Nat.le_refl _, Nat.le_of_eq he.symm, h⟩, fun i h0 hi => ?_⟩
  simp at hi
  omega

theorem GOk_noname_single {g : GM} (hg : GOk gate g) (hn : g.m.name = none) :
    ∃ p, g.blk = [p] ∧ g.m.start = p.s ∧ g.m.end_ = p.e ∧ g.m.perms = p.perms ∧
      (effNameOff gate p).1 = none ∧ (effNameOff gate p).2 = g.m.offset ∧ p.s < p.e := by
  obtain ⟨⟨f, rest, hblk, hs, hnm, ho, hp⟩, ⟨l, hl, hle⟩, hc, hsy, hpos, hex, hw, hr⟩ := hg
  cases rest with
  | nil =>
    obtain rfl : f = l := by simpa [hblk] using hl
    exact ⟨f, hblk, hs, hle, hp rfl, hnm ▸ hn, ho.symm, (hw f (hblk ▸ List.mem_cons_self)).2.2⟩
  | cons b r =>
    -- every reason for merging a second line asks the mapping for a name
    have := hr 1 (by omega) (by rw [hblk]; simp)
    simp [mergeReason, hblk, reasonAt, sameName, hn, isPathName] at this

theorem testBit2_private : (PERM_PRIVATE).testBit 2 = false := by decide

/-- rule 1: the line continues the newest mapping under the same name -/
theorem GOk_rule1 {g : GM} {ln : MLine} (hg : GOk gate g)
    (h : rule1 g.m ln.s (effNameOff gate ln).1 = true) (hln : ln.s < ln.e) :
    GOk gate ⟨g.m.grow ln.e ln.e (permOr g.m.perms ln.perms), g.blk ++ [ln]⟩ := by
  simp only [rule1, Bool.and_eq_true, beq_iff_eq] at h
  obtain ⟨⟨hs, hsome⟩, hnm⟩ := h
  refine hg.grow [ln] ln ln _ _ rfl rfl hs rfl
    (List.forall_mem_singleton.mpr ⟨Nat.le_of_eq hs.symm, Nat.le_refl _, hln⟩) (Nat.le_refl _)
    (by simp [permOr, Nat.testBit_or]) fun j hj => ?_
  obtain rfl : j = 0 := by simpa using hj
  rw [Nat.add_zero, mergeReason_append_cons]
  exact reasonAt_sameName _ _ (sameName_of_eq hnm (hnm ▸ hsome))

/-- rule 2: a reserved (inaccessible) gap directly behind an executable file mapping -/
theorem GOk_rule2 {g : GM} {ln : MLine} (hg : GOk gate g)
    (h : rule2 g.m ln.s (effNameOff gate ln).2 ln.perms = true) (hln : ln.s < ln.e) :
    GOk gate ⟨g.m.grow ln.e g.m.sysEnd g.m.perms, g.blk ++ [ln]⟩ := by
  simp only [rule2, Bool.and_eq_true, beq_iff_eq] at h
  obtain ⟨⟨⟨⟨hs, hexec⟩, hpath⟩, -⟩, hperm⟩ := h
  refine hg.grow [ln] ln ln _ _ rfl rfl hs rfl
    (List.forall_mem_singleton.mpr ⟨Nat.le_of_eq hs.symm, Nat.le_refl _, hln⟩)
    (Nat.le_trans hg.sys.2 (hs ▸ Nat.le_of_lt hln)) (by simp [hperm, testBit2_private]) fun j hj => ?_
  obtain rfl : j = 0 := by simpa using hj
  rw [Nat.add_zero, mergeReason_append_cons]
  exact reasonAt_afterExec _ hperm hpath (hg.exec ▸ hexec)

/-- rule 3: the line continues, under the same name, the file mapping in front of a one-line reserved gap -/
theorem GOk_rule3 {pp prev : GM} {ln : MLine} (hpp : GOk gate pp) (hprev : GOk gate prev)
    (h : rule3 pp.m prev.m ln.s (effNameOff gate ln).1 = true) (hln : ln.s < ln.e) :
    GOk gate ⟨pp.m.grow ln.e ln.e (permOr pp.m.perms ln.perms), pp.blk ++ (prev.blk ++ [ln])⟩ := by
  obtain ⟨hpath, hadj, hempty, hs, hnm⟩ := rule3_iff.1 h
  simp only [Mapping.isEmptyPage, Bool.and_eq_true, beq_iff_eq, Option.isNone_iff_eq_none] at hempty
  obtain ⟨⟨hoff0, hpriv⟩, hnone⟩ := hempty
  obtain ⟨p, hpb, hps, hpe, hpp', hpn, hpo, hplt⟩ := GOk_noname_single hprev hnone
  have hsame := sameName_of_eq hnm (isSome_of_isPathName hpath)
  have hp0 : pp.m.end_ = p.s := hadj.trans hps
  have hp1 : p.e = ln.s := hpe.symm.trans hs
  rw [hpb]
  refine hpp.grow [p, ln] p ln _ _ rfl rfl hp0.symm (by simp [contiguous, hp1])
    (List.forall_mem_cons.mpr ⟨⟨Nat.le_of_eq hp0, Nat.le_of_lt (hp1 ▸ hln), hplt⟩,
      List.forall_mem_singleton.mpr ⟨Nat.le_of_lt (hp0 ▸ hp1 ▸ hplt), Nat.le_refl _, hln⟩⟩) (Nat.le_refl _)
    (by simp [permOr, Nat.testBit_or, ← hpp', hpriv, testBit2_private]) fun j hj => ?_
  have hj' : j = 0 ∨ j = 1 := by simp at hj; omega
  rcases hj' with rfl | rfl
  · rw [Nat.add_zero, mergeReason_append_cons]
    exact reasonAt_gap _ hpn (hpp'.symm.trans hpriv) (hpo.trans hoff0) hpath hsame
  · have e : pp.blk ++ [p, ln] = (pp.blk ++ [p]) ++ ln :: [] := by simp
    have e' : pp.blk.length + 1 = (pp.blk ++ [p]).length := by simp
    rw [e, e', mergeReason_append_cons]
    exact reasonAt_sameName _ _ hsame

def sortedDesc : List GM → Prop
  | [] => True
  | [_] => True
  | g1 :: g2 :: r => g2.m.end_ ≤ g1.m.start ∧ sortedDesc (g2 :: r)

structure GInv (gate : Option Nat) (acc : List GM) (ls : List MLine) (le : Nat) : Prop where
  flat : acc.reverse.flatMap GM.blk = ls
  ok : ∀ g ∈ acc, GOk gate g
  sorted : sortedDesc acc
  headEnd : ∀ g, acc.head? = some g → g.m.end_ = le

theorem sortedDesc_replace_head (g g' : GM) (rest : List GM) (h : sortedDesc (g :: rest))
    (hs : g'.m.start = g.m.start) : sortedDesc (g' :: rest) := by
  cases rest with
  | nil => trivial
  | cons a r => exact ⟨hs ▸ h.1, h.2⟩

theorem sortedDesc_iff (acc : List GM) : sortedDesc acc ↔ acc.Pairwise (fun a b => b.m.end_ ≤ a.m.start) := by
  induction acc with
  | nil => simp [sortedDesc]
  | cons a r ih =>
    cases r with
    | nil => simp [sortedDesc]
    | cons b r' =>
      simp only [sortedDesc, ih, List.pairwise_cons, List.forall_mem_cons]
      constructor
      · rintro ⟨hab, hb, hp⟩
        exact ⟨⟨hab, fun c hc => Nat.le_trans (hb c hc) (Nat.le_trans (Nat.le_add_right _ _) hab)⟩, hb, hp⟩
      · rintro ⟨⟨hab, _⟩, hb, hp⟩
        exact ⟨hab, hb, hp⟩

theorem GInv.push {acc : List GM} {ls : List MLine} {le : Nat} (hinv : GInv gate acc ls le)
    (ln : MLine) (hle : le ≤ ln.s) (hln : ln.s < ln.e) :
    GInv gate (⟨mkMapping ln.s ln.e (effNameOff gate ln).2 ln.perms (effNameOff gate ln).1, [ln]⟩ :: acc)
      (ls ++ [ln]) ln.e := by
  refine ⟨by simp [hinv.flat], List.forall_mem_cons.mpr ⟨GOk_fresh ln hln, hinv.ok⟩, ?_, fun g hg => ?_⟩
  · cases acc with
    | nil => trivial
    | cons a r => exact ⟨hinv.headEnd a rfl ▸ hle, hinv.sorted⟩
  · cases hg
    exact mkMapping_end _ _ _ _ _ hln

theorem GInv.grow {g : GM} {rest : List GM} {ls : List MLine} {le : Nat} (hinv : GInv gate (g :: rest) ls le)
    {xs : List MLine} {e se p : Nat} (hg' : GOk gate ⟨g.m.grow e se p, g.blk ++ xs⟩) :
    GInv gate (⟨g.m.grow e se p, g.blk ++ xs⟩ :: rest) (ls ++ xs) e := by
  refine ⟨?_, List.forall_mem_cons.mpr ⟨hg', (List.forall_mem_cons.mp hinv.ok).2⟩,
    sortedDesc_replace_head g _ rest hinv.sorted rfl, fun x hx => ?_⟩
  · rw [← hinv.flat]; simp
  · cases hx
    -- the grown mapping is not empty (`start < start + (e - start)`), so it does end at `e`
    exact Mapping.grow_end (Nat.le_of_lt (Nat.lt_of_sub_pos (Nat.pos_of_lt_add_right hg'.pos))) se p

theorem GInv.pop {g : GM} {rest : List GM} {ls : List MLine} {le : Nat}
    (hinv : GInv gate (g :: rest) ls le) : ∃ ls' le', ls = ls' ++ g.blk ∧ GInv gate rest ls' le' := by
  refine ⟨rest.reverse.flatMap GM.blk, (rest.head?.map (·.m.end_)).getD 0, by rw [← hinv.flat]; simp,
    rfl, (List.forall_mem_cons.mp hinv.ok).2, ?_, fun x hx => by simp [hx]⟩
  cases rest with
  | nil => trivial
  | cons a r => exact hinv.sorted.2

theorem aggStep_ghost (gs : List GM) (ls : List MLine) (le : Nat) (ln : MLine)
    (hinv : GInv gate gs ls le) (hle : le ≤ ln.s) (hln : ln.s < ln.e) :
    ∃ gs', aggStep gate (gs.map GM.m) ln = gs'.map GM.m ∧ GInv gate gs' (ls ++ [ln]) ln.e := by
  have push := hinv.push ln hle hln
  cases gs with
  | nil => exact ⟨_, rfl, push⟩
  | cons prev rest =>
    have hprev := hinv.ok prev List.mem_cons_self
    simp only [aggStep, List.map_cons]
    split
    · next h1 => exact ⟨_ :: rest, rfl, hinv.grow (GOk_rule1 hprev h1 hln)⟩
    · split
      · next h2 => exact ⟨_ :: rest, rfl, hinv.grow (GOk_rule2 hprev h2 hln)⟩
      · cases rest with
        | nil => exact ⟨_, rfl, push⟩
        | cons pp rest2 =>
          simp only [pushOrFold, List.map_cons]
          split
          · next h3 =>
            obtain ⟨ls', le', rfl, hinv'⟩ := hinv.pop
            rw [List.append_assoc]
            exact ⟨_ :: rest2, rfl, hinv'.grow (GOk_rule3 (hinv'.ok pp List.mem_cons_self) hprev h3 hln)⟩
          · exact ⟨_, rfl, push⟩

theorem fold_ghost (gs : List GM) (done ls : List MLine) (le : Nat)
    (hinv : GInv gate gs done le) (hp : ls.Pairwise (fun a b => a.e ≤ b.s)) (hne : ∀ l ∈ ls, l.s < l.e)
    (hle : ∀ l ∈ ls, le ≤ l.s) :
    ∃ gs' le', ls.foldl (aggStep gate) (gs.map GM.m) = gs'.map GM.m ∧ GInv gate gs' (done ++ ls) le' := by
  induction ls generalizing gs done le with
  | nil => exact ⟨gs, le, rfl, by simpa using hinv⟩
  | cons l rest ih =>
    rw [List.pairwise_cons] at hp
    obtain ⟨gs1, h1, hinv1⟩ := aggStep_ghost gs done le l hinv (hle l List.mem_cons_self) (hne l List.mem_cons_self)
    obtain ⟨gs', le', h', hinv'⟩ := ih gs1 (done ++ [l]) l.e hinv1 hp.2
      (fun x hx => hne x (List.mem_cons_of_mem _ hx)) hp.1
    exact ⟨gs', le', by rw [List.foldl_cons, h1, h'], by simpa using hinv'⟩

end Mdw
