/-
  Ascending lists of intervals `[lo a, hi a)`: every entry ends before the next one starts
  (`List.Pairwise fun a b => hi a ≤ lo b`). The lines of a memory map and the mappings derived from them are both
  of this kind; what the theorems need of either is that two entries sharing an address are the same entry.
-/
namespace Mdw

theorem idx_eq_of_overlap {α} {lo hi : α → Nat} {l : List α} (hp : l.Pairwise (fun a b => hi a ≤ lo b))
    {i j : Nat} {a b : α} (hi' : l[i]? = some a) (hj : l[j]? = some b) {w : Nat}
    (hwa : lo a ≤ w ∧ w < hi a) (hwb : lo b ≤ w ∧ w < hi b) : i = j := by
  obtain ⟨hil, rfl⟩ := List.getElem?_eq_some_iff.mp hi'
  obtain ⟨hjl, rfl⟩ := List.getElem?_eq_some_iff.mp hj
  rcases Nat.lt_trichotomy i j with h | h | h
  · have := List.pairwise_iff_getElem.mp hp i j hil hjl h; omega
  · exact h
  · have := List.pairwise_iff_getElem.mp hp j i hjl hil h; omega

theorem eq_of_overlap {α} {lo hi : α → Nat} {l : List α} (hp : l.Pairwise (fun a b => hi a ≤ lo b))
    {a b : α} (ha : a ∈ l) (hb : b ∈ l) {w : Nat}
    (hwa : lo a ≤ w ∧ w < hi a) (hwb : lo b ≤ w ∧ w < hi b) : a = b := by
  obtain ⟨i, hi'⟩ := List.getElem?_of_mem ha
  obtain ⟨j, hj⟩ := List.getElem?_of_mem hb
  cases idx_eq_of_overlap hp hi' hj hwa hwb
  exact Option.some.inj (hi'.symm.trans hj)

theorem pairwise_rel_of_ne {α} {R : α → α → Prop} {l : List α} (h : l.Pairwise R) (hsym : ∀ {x y}, R x y → R y x)
    {a b : α} (ha : a ∈ l) (hb : b ∈ l) (hne : a ≠ b) : R a b :=
  (List.Pairwise.forall_of_forall_of_flip (R := fun x y => x = y ∨ R x y) (fun _ _ => .inl rfl)
    (h.imp .inr) (h.imp fun h => .inr (hsym h)) ha hb).resolve_left hne

theorem takeWhile_dropWhile_append {α} (p : α → Bool) (a b : List α) (ha : ∀ x ∈ a, p x = true)
    (hb : ∀ x, b.head? = some x → p x = false) :
    (a ++ b).takeWhile p = a ∧ (a ++ b).dropWhile p = b := by
  rw [List.takeWhile_append_of_pos ha, List.dropWhile_append_of_pos ha]
  cases b with
  | nil => simp
  | cons x t => simp [hb x rfl]

end Mdw
