/-
  The gathering models (Model/Gather.lean, Model/System.lean) as compositions: each four-way match is a `bind`, both
  loops are `Outcome.forIdx`, and `gatherStack` is `recordStack` of the copy of its region.
-/
import MdwModel.Model.System
import MdwModel.Lemmas.Outcome
namespace Mdw
open Outcome (forIdx)

abbrev SysState.env (s : SysState) : GEnv := ⟨s.ms, s.page, copyFromProcess s.mem⟩

/-- where the image stands when the thread list's records are reserved -/
abbrev SysState.threadsEnd (s : SysState) : Nat := 32 + 12 * s.numWriters + 4 + 48 * s.threads.length

/-- the region `fill_thread_stack` copies, from what `get_stack_info` returned -/
abbrev stackRegion (cfg : GCfg) (idx n currPos : Nat) (isCrash : Bool) (v l sp : Nat) : Nat × Nat :=
  capRegion v l sp (maxStackLen cfg.limit (extraLimit cfg.limit n currPos) idx isCrash)

variable {env : GEnv} {cfg : GCfg} {crash : Option CrashIn} {c : CrashIn} {t : TInfo} {isCrash : Bool} {bs : Bytes}
  {blamed idx n currPos sp ip start : Nat}

def recordStack (env : GEnv) (cfg : GCfg) (sp ip start : Nat) (bs : Bytes) : Outcome (Option (Nat × Bytes)) :=
  if includeStack cfg.skip cfg.principal ip bs (sp - start) then
    if cfg.sanitize then (sanitize env.ms bs sp (sp - start)).bind fun b => .ok (some (start, b))
    else .ok (some (start, bs))
  else .ok none

theorem recordStack_ok_none :
    recordStack env cfg sp ip start bs = .ok none ↔ includeStack cfg.skip cfg.principal ip bs (sp - start) = false := by
  unfold recordStack
  cases includeStack cfg.skip cfg.principal ip bs (sp - start) with
  | false => simp
  | true =>
    cases cfg.sanitize with
    | false => simp
    | true => simp [Outcome.bind_eq_ok]

theorem recordStack_ok_some {s : Nat} {bytes : Bytes} :
    recordStack env cfg sp ip start bs = .ok (some (s, bytes)) ↔
      s = start ∧ includeStack cfg.skip cfg.principal ip bs (sp - start) = true ∧
      (if cfg.sanitize then sanitize env.ms bs sp (sp - start) = .ok bytes else bytes = bs) := by
  unfold recordStack
  cases includeStack cfg.skip cfg.principal ip bs (sp - start) with
  | false => simp
  | true =>
    cases cfg.sanitize with
    | false => simp [eq_comm]
    | true =>
      simp only [if_true, Outcome.bind_eq_ok]
      constructor
      · rintro ⟨b, hb, h⟩
        cases h
        exact ⟨rfl, trivial, hb⟩
      · rintro ⟨rfl, _, hb⟩
        exact ⟨bytes, hb, rfl⟩

theorem recordStack_settled (h : cfg.sanitize = true → (sanitize env.ms bs sp (sp - start)).settled) :
    (recordStack env cfg sp ip start bs).settled := by
  unfold recordStack
  split
  · split
    · rename_i hs
      exact Outcome.settled_bind (h hs) fun _ _ => trivial
    · trivial
  · trivial

theorem gatherStack_eq :
    gatherStack env cfg idx n currPos isCrash sp ip =
      match getStackInfo env.ms env.page sp with
      | .ok (v, l) =>
        match env.read (stackRegion cfg idx n currPos isCrash v l sp).1 (stackRegion cfg idx n currPos isCrash v l sp).2 with
        | none => .err "CopyFromProcessError"
        | some bs => recordStack env cfg sp ip (stackRegion cfg idx n currPos isCrash v l sp).1 bs
      | _ => .ok none := by
  unfold gatherStack recordStack
  cases getStackInfo env.ms env.page sp with
  | ok p =>
    obtain ⟨v, l⟩ := p
    simp only
    cases env.read (stackRegion cfg idx n currPos isCrash v l sp).1 (stackRegion cfg idx n currPos isCrash v l sp).2 with
    | none => rfl
    | some bs =>
      simp only
      cases includeStack cfg.skip cfg.principal ip bs (sp - (stackRegion cfg idx n currPos isCrash v l sp).1) <;>
        cases cfg.sanitize <;> try rfl
      cases sanitize env.ms bs sp (sp - (stackRegion cfg idx n currPos isCrash v l sp).1) <;> rfl
  | _ => rfl

theorem ipWindow_of_find {ms : List Mapping} {ip : Nat} {m : Mapping}
    (hm : ms.find? (fun m => !(decide (ip < m.start) || decide (ip ≥ m.start + m.size))) = some m) :
    ipWindow ms ip = some (max m.start (ip - 128), min (m.start + m.size) (ip + 128) - max m.start (ip - 128)) ∧
      m.start ≤ ip ∧ ip < m.start + m.size := by
  have hp := List.find?_some hm
  simp only [Bool.not_eq_true', Bool.or_eq_false_iff, decide_eq_false_iff_not, Nat.not_lt, ge_iff_le, Nat.not_le] at hp
  exact ⟨by simp only [ipWindow, hm, ipWindow.Src_ipHalf], hp.1, hp.2⟩

theorem gatherThread_blamed (hb : t.tid = blamed) :
    gatherThread env cfg (some c) blamed idx n currPos t =
      (gatherStack env cfg idx n currPos true c.sp c.ip).bind fun stack =>
      (gatherWindow env c.ip).bind fun window => .ok ⟨t.tid, c.sp, stack, window, c.ctx, c.ip⟩ := by
  simp only [gatherThread, hb, if_true]
  cases gatherStack env cfg idx n currPos true c.sp c.ip with
  | ok stack => cases gatherWindow env c.ip <;> rfl
  | _ => rfl

theorem gatherThread_other (hb : crash = none ∨ t.tid ≠ blamed) :
    gatherThread env cfg crash blamed idx n currPos t =
      (gatherStack env cfg idx n currPos false t.sp t.ip).bind fun stack => .ok ⟨t.tid, t.sp, stack, none, t.ctx, t.ip⟩ := by
  cases crash with
  | none =>
    simp only [gatherThread]
    cases gatherStack env cfg idx n currPos false t.sp t.ip <;> rfl
  | some c =>
    have hne : t.tid ≠ blamed := hb.resolve_left (fun h => nomatch h)
    simp only [gatherThread, hne, if_false]
    cases gatherStack env cfg idx n currPos false t.sp t.ip <;> rfl

theorem blamed_or_other (crash : Option CrashIn) (blamed : Nat) (t : TInfo) :
    (∃ c, crash = some c ∧ t.tid = blamed) ∨ (crash = none ∨ t.tid ≠ blamed) := by
  cases crash with
  | none => exact Or.inr (Or.inl rfl)
  | some c => exact (Decidable.em (t.tid = blamed)).imp (fun h => ⟨c, rfl, h⟩) Or.inr

theorem gatherThreadsFrom_eq (i0 : Nat) (ts : List TInfo) :
    gatherThreadsFrom env cfg crash blamed n currPos i0 ts =
      forIdx (fun i t => gatherThread env cfg crash blamed i n currPos t) i0 ts := by
  induction ts generalizing i0 with
  | nil => rfl
  | cons t ts ih =>
    simp only [gatherThreadsFrom, forIdx, ← ih]
    cases gatherThread env cfg crash blamed i0 n currPos t with
    | ok d => cases gatherThreadsFrom env cfg crash blamed n currPos (i0 + 1) ts <;> rfl
    | _ => rfl

theorem gatherApp_eq (mem : TMem) (app : List (Nat × Nat)) (i0 : Nat) :
    gatherApp mem app =
      forIdx (fun _ r => match copyFromProcess mem r.1 r.2 with
        | none => .err "CopyFromProcessError"
        | some b => .ok (r.1, b)) i0 app := by
  induction app generalizing i0 with
  | nil => rfl
  | cons x rest ih =>
    obtain ⟨a, n⟩ := x
    simp only [gatherApp, forIdx, ← ih (i0 + 1)]
    cases copyFromProcess mem a n with
    | none => rfl
    | some b => cases gatherApp mem rest <;> rfl

abbrev contentOf (s : SysState) (r : Request) (threads : List DThread) (app : List (Nat × Bytes)) : DumpIn :=
  { numWriters := s.numWriters, timestamp := s.timestamp, threads := threads, blamed := r.blamed,
    crash := r.crash.map (·.1), standalone := (r.crash.map (·.2.ctx)).getD [],
    modules := s.modules, app := app, sys := s.sys, memInfo := s.memInfo, cpuinfo := s.cpuinfo, status := s.status,
    lsb := s.lsb, cmdline := s.cmdline, environ := s.environ, auxv := s.auxv, maps := s.maps, dso := s.dso,
    limits := s.limits, names := s.names, handles := s.handles, soft := s.soft }

theorem gatherDump_eq (s : SysState) (r : Request) :
    gatherDump s r =
      (gatherThreads s.env r.cfg (r.crash.map (·.2)) r.blamed s.numWriters s.threads).bind fun threads =>
      (gatherApp s.mem r.app).bind fun app => .ok (contentOf s r threads app) := by
  unfold gatherDump
  cases gatherThreads s.env r.cfg (r.crash.map (·.2)) r.blamed s.numWriters s.threads with
  | ok threads => cases gatherApp s.mem r.app <;> rfl
  | _ => rfl

theorem systemDump_eq (s : SysState) (r : Request) :
    systemDump s r = (gatherDump s r).bind fun d => .ok (dumpBytes d) := by
  unfold systemDump
  cases gatherDump s r <;> rfl

end Mdw
