/- `wordsOf` (the words the reference scan and the sanitizer walk over) without its fuel: slot `k` is the word at
   byte `8 * k`. What a successful mapping lookup says of the mapping found. -/
import MdwModel.Model.Stack
namespace Mdw

theorem wordsOf_eq (fuel : Nat) (bs : Bytes) (h : bs.length / 8 < fuel) :
    wordsOf fuel bs = (List.range (bs.length / 8)).map (fun k => unle ((bs.drop (8 * k)).take 8)) := by
  induction fuel generalizing bs with
  | zero => omega
  | succ fuel ih =>
    unfold wordsOf
    by_cases hb : bs.length < 8
    · rw [if_pos hb, Nat.div_eq_of_lt hb]
      rfl
    · -- one word, then the words of the rest, whose k-th is the (k+1)-th of `bs`
      have hl : (bs.drop 8).length / 8 + 1 = bs.length / 8 := by rw [List.length_drop]; omega
      rw [if_neg hb, ih _ (by omega), ← hl, List.range_succ_eq_map, List.map_cons, List.map_map]
      simp only [List.drop_drop, Function.comp_def, Nat.mul_succ, Nat.mul_zero, List.drop_zero, Nat.add_comm]

theorem wordsOf_length (fuel : Nat) (bs : Bytes) (h : bs.length / 8 < fuel) :
    (wordsOf fuel bs).length = bs.length / 8 := by
  rw [wordsOf_eq fuel bs h, List.length_map, List.length_range]

theorem wordsOf_drop (bs : Bytes) (off : Nat) :
    wordsOf ((bs.drop off).length / 8 + 1) (bs.drop off) =
      (List.range ((bs.length - off) / 8)).map (fun k => unle ((bs.drop (off + 8 * k)).take 8)) := by
  rw [wordsOf_eq _ _ (Nat.lt_succ_self _), List.length_drop]
  simp only [List.drop_drop]

theorem inRangeMod_of_between (lo hi t : Nat) (h1 : lo ≤ t) (h2 : t ≤ hi) : inRangeMod lo hi t = true := by
  unfold inRangeMod
  by_cases h : hi - lo ≥ 2047
  · simp [h]
  · simp only [h, decide_false, Bool.false_or, decide_eq_true_eq]
    omega

theorem findMapping_some {ms : List Mapping} {a : Nat} {m : Mapping} (h : findMapping ms a = some m) :
    m ∈ ms ∧ m.start ≤ a ∧ a < m.start + m.size := by
  unfold findMapping at h
  have h1 := List.find?_some h
  have h2 := List.mem_of_find?_eq_some h
  simp only [Bool.and_eq_true, decide_eq_true_eq] at h1
  exact ⟨h2, h1.1, by omega⟩

theorem findMappingNoBias_some {ms : List Mapping} {a : Nat} {m : Mapping} (h : findMappingNoBias ms a = some m) :
    m ∈ ms ∧ m.containsAddress a = true := by
  unfold findMappingNoBias at h
  have hc := List.find?_some h
  exact ⟨List.mem_of_find?_eq_some h, hc⟩

theorem findMappingNoBias_none {ms : List Mapping} {a : Nat} (h : findMappingNoBias ms a = none) :
    ∀ m ∈ ms, m.containsAddress a = false :=
  fun m hm => Bool.eq_false_iff.mpr (List.find?_eq_none.mp h m hm)

end Mdw
