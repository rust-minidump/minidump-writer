/-
  Prelude: bytes, little-endian codecs, machine-integer helpers, outcomes.
  No imports outside core so that the driver links as a native executable.
-/
namespace Mdw

abbrev Bytes := List UInt8

/-- Result of a modelled Rust function: a value, an `Err` of some class, a panic
    (overflow / slice index / unwrap), or fuel exhaustion of a modelled loop. -/
inductive Outcome (α : Type) where
  | ok (a : α)
  | err (cls : String)
  | panic (why : String)
  | fuelOut
  deriving Repr, DecidableEq

namespace Outcome
def bind {α β} (x : Outcome α) (f : α → Outcome β) : Outcome β :=
  match x with
  | ok a => f a
  | err c => err c
  | panic w => panic w
  | fuelOut => fuelOut
instance : Monad Outcome where
  pure := ok
  bind := bind
def isOk {α} : Outcome α → Bool | ok _ => true | _ => false
def isPanic {α} : Outcome α → Bool | panic _ => true | _ => false
def cls {α} : Outcome α → String
  | ok _ => "ok" | err c => "err:" ++ c | panic _ => "panic" | fuelOut => "fuel"
end Outcome

def zeros (n : Nat) : Bytes := List.replicate n 0

theorem zeros_length (n : Nat) : (zeros n).length = n := by simp [zeros]

/-- `k` bytes of `n`, little endian (truncating, like an `as` cast). -/
def le : Nat → Nat → Bytes
  | 0, _ => []
  | k+1, n => UInt8.ofNat (n % 256) :: le k (n / 256)

def unle : Bytes → Nat
  | [] => 0
  | b :: bs => b.toNat + 256 * unle bs

@[simp] theorem le_length (k n : Nat) : (le k n).length = k := by
  induction k generalizing n with
  | zero => rfl
  | succ k ih => simp [le, ih]

theorem unle_le (k n : Nat) (h : n < 256 ^ k) : unle (le k n) = n := by
  induction k generalizing n with
  | zero => exact (Nat.lt_one_iff.mp h).symm
  | succ k ih =>
    have h2 : n / 256 < 256 ^ k := Nat.div_lt_of_lt_mul (by rwa [Nat.pow_succ, Nat.mul_comm] at h)
    rw [le, unle, ih _ h2, UInt8.toNat_ofNat', show 2 ^ 8 = 256 from rfl, Nat.mod_mod, Nat.mod_add_div]

theorem unle_lt (bs : Bytes) : unle bs < 256 ^ bs.length := by
  induction bs with
  | nil => simp [unle]
  | cons b bs ih =>
    have hb : b.toNat < 256 := b.toNat_lt
    simp [unle, Nat.pow_succ]
    omega

theorem le_unle (bs : Bytes) : le bs.length (unle bs) = bs := by
  induction bs with
  | nil => rfl
  | cons b bs ih =>
    have hb : b.toNat < 256 := b.toNat_lt
    have h1 : (b.toNat + 256 * unle bs) % 256 = b.toNat := by omega
    have h2 : (b.toNat + 256 * unle bs) / 256 = unle bs := by omega
    simp [le, unle, h1, h2, ih]

theorem le_getElem? (k n i : Nat) :
    (le k n)[i]? = if i < k then some (UInt8.ofNat (n / 256 ^ i % 256)) else none := by
  induction k generalizing n i with
  | zero => simp [le]
  | succ k ih =>
    cases i with
    | zero => simp [le]
    | succ i =>
      simp only [le, List.getElem?_cons_succ, ih, Nat.add_lt_add_iff_right, Nat.pow_succ, Nat.div_div_eq_div_mul]
      rw [Nat.mul_comm]

/-- A view of some byte store (`List`, `ByteArray`, target memory …). -/
abbrev View := Nat → Option UInt8

def viewOfList (l : Bytes) : View := fun i => l[i]?

def readBytes (rd : View) (off : Nat) : Nat → Option Bytes
  | 0 => some []
  | k+1 => match rd off, readBytes rd (off+1) k with
    | some b, some bs => some (b :: bs)
    | _, _ => none

def readLE (rd : View) (off k : Nat) : Option Nat :=
  (readBytes rd off k).map unle

theorem readBytes_length {rd : View} {off k : Nat} {bs : Bytes}
    (h : readBytes rd off k = some bs) : bs.length = k := by
  induction k generalizing off bs with
  | zero => simp [readBytes] at h; simp [← h]
  | succ k ih =>
    simp only [readBytes] at h
    split at h
    · rename_i b bs' hb hbs
      simp at h; subst h; simp [ih hbs]
    · simp at h

theorem readBytes_list (l : Bytes) (off k : Nat) (h : off + k ≤ l.length) :
    readBytes (viewOfList l) off k = some ((l.drop off).take k) := by
  induction k generalizing off with
  | zero => rfl
  | succ k ih =>
    have hlt : off < l.length := by omega
    rw [readBytes, ih (off+1) (by omega), viewOfList, List.getElem?_eq_getElem hlt, List.drop_eq_getElem_cons hlt,
      List.take_succ_cons]

def U32 : Nat := 2 ^ 32
def U64 : Nat := 2 ^ 64

/-- `x as u32`. -/
def asU32 (x : Nat) : Nat := x % 2 ^ 32
def asU16 (x : Nat) : Nat := x % 2 ^ 16
def asU8 (x : Nat) : Nat := x % 2 ^ 8

/-- checked `usize`/`u64` addition as compiled with overflow checks. -/
def add64 (a b : Nat) : Outcome Nat :=
  if a + b < 2 ^ 64 then .ok (a + b) else .panic "attempt to add with overflow"
def sub64 (a b : Nat) : Outcome Nat :=
  if b ≤ a then .ok (a - b) else .panic "attempt to subtract with overflow"
def mul64 (a b : Nat) : Outcome Nat :=
  if a * b < 2 ^ 64 then .ok (a * b) else .panic "attempt to multiply with overflow"
def add32 (a b : Nat) : Outcome Nat :=
  if a + b < 2 ^ 32 then .ok (a + b) else .panic "attempt to add with overflow"

end Mdw
