/-
  C11 — Best-effort steps fail softly and every failure is reported

    C11_runPlan_soft      for every stream plan and every set of failing steps that are all soft:
                          the dump completes, exactly the failing steps are recorded (once each, in
                          order), every other publishing step publishes its stream and each failed
                          one an all-zero entry
    C11_plan              instantiated with the plan regenerated from generate_dump: any subset of
                          the file copies, the linker debug data, the handle data and the
                          soft-error serialisation may fail
    C11_init_soft         (regenerated source fact) stopping the process, completing auxv
                          information, enumerating threads and mappings are wrapped as soft errors
    C11_no_fault_empty    with no fault the expected tree is empty
    C11_fail_spots        (regenerated source fact) the crate declares five fail points
-/
import MdwModel.Model.SoftErrors
import MdwModel.Theorems.Plan
namespace Mdw

theorem runPlan_cons (s : Src.PlanStep) (rest : List Src.PlanStep) (i : Nat) (fails : Nat → Bool)
    (hs : fails i = true → s.soft = true) :
    runPlan (s :: rest) i fails =
      ((runPlan rest (i + 1) fails).1,
       (if fails i then [i] else []) ++ (runPlan rest (i + 1) fails).2.1,
       (if s.publishes then [if fails i then 0 else s.streamType] else []) ++ (runPlan rest (i + 1) fails).2.2) := by
  cases hf : fails i <;> cases hp : s.publishes <;> simp [runPlan, hf, hp, hs]

theorem C11_runPlan_soft (plan : List Src.PlanStep) (i0 : Nat) (fails : Nat → Bool)
    (hsoft : ∀ k (s : Src.PlanStep), plan[k]? = some s → fails (i0 + k) = true → s.soft = true) :
    (runPlan plan i0 fails).1 = true ∧
    (runPlan plan i0 fails).2.1 = ((List.range plan.length).filter (fun k => fails (i0 + k))).map (i0 + ·) ∧
    (runPlan plan i0 fails).2.2 =
      ((List.range plan.length).filterMap (fun k => match plan[k]? with
        | some s => if s.publishes then some (if fails (i0 + k) then 0 else s.streamType) else none
        | none => none)) := by
  induction plan generalizing i0 with
  | nil => simp [runPlan]
  | cons s rest ih =>
    have hsh : ∀ k, i0 + (k + 1) = i0 + 1 + k := fun k => by omega
    obtain ⟨h1, h2, h3⟩ := ih (i0 + 1) fun k t hk hf => hsoft (k + 1) t hk (hsh k ▸ hf)
    rw [runPlan_cons s rest i0 fails (hsoft 0 s rfl), h1, h2, h3, List.length_cons, List.range_succ_eq_map]
    refine ⟨rfl, ?_, ?_⟩
    · cases hf : fails i0 <;>
        simp [List.filter_map, Function.comp_def, hf, Nat.add_assoc, Nat.add_comm 1]
    · cases hp : s.publishes <;>
        simp [List.filterMap_map, Function.comp_def, hp, Nat.add_assoc, Nat.add_comm 1]

/-- **C11 (the real plan).** Any subset of the best-effort steps of generate_dump may fail: the
    dump completes and exactly the failing steps are recorded (what is published then: C11_runPlan_soft). -/
theorem C11_plan (fails : Nat → Bool)
    (h : ∀ k (s : Src.PlanStep), Src.plan[k]? = some s → fails k = true → s.kind ≥ 2) :
    (runPlan Src.plan 0 fails).1 = true ∧
    (runPlan Src.plan 0 fails).2.1 = (List.range Src.plan.length).filter (fun k => fails k) := by
  have := C11_runPlan_soft Src.plan 0 fails (by
    intro k s hk hf
    rw [Nat.zero_add] at hf
    exact plan_best_effort_soft s (List.mem_of_getElem? hk) (h k s hk hf))
  refine ⟨this.1, ?_⟩
  rw [this.2.1]
  simp

/-- **C11 (init phase).** -/
theorem C11_init_soft : Src.initSteps.all (fun s => s.2 != some false) = true ∧ Src.initSteps.length = 4 := by decide

/-- **C11 (nothing failed → empty list).** -/
theorem C11_no_fault_empty (n : Nat) : expectedPaths ⟨false, false, false, false, false⟩ n false = [] := by
  simp [expectedPaths]

/-- the crate declares five fail points, as many as the flags `expectedPaths` takes -/
theorem C11_fail_spots : Src.failSpots.length = 5 := by decide

example : (runPlan Src.plan 0 (fun k => k == 8 || k == 15)).1 = true ∧
    (runPlan Src.plan 0 (fun k => k == 8 || k == 15)).2.1 = [8, 15] := by decide

end Mdw
