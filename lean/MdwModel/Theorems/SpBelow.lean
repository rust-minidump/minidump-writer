/- A stack pointer *below* the captured region (in a guard page or a gap in front of the stack: `get_stack_info` walks
   up to the mapping above): every captured word is at or above it, so the offset both rules work with is 0 — the
   whole copy is scanned for references to the principal mapping, and nothing of it is cleared as "below the stack
   pointer". The code computes the offset as `stack_ptr.saturating_sub(valid_stack_ptr)`; that it does is a
   regenerated source fact (`Src.spOffsetSaturating`; the seeds C12_r18 `abs_diff` and C20_r19 `sp & (page − 1)`
   make it false). -/
import MdwModel.Theorems.EndToEnd
import MdwModel.Theorems.C20
import MdwModel.Generated.Source
namespace Mdw

theorem SpBelow_source_agrees : Src.spOffsetSaturating = none ∨ Src.spOffsetSaturating = some true := by decide

/-- with the stack pointer at or below the start of the captured region the gathering uses offset 0 throughout -/
theorem SpBelow_offset_zero (env : GEnv) (cfg : GCfg) (idx n currPos : Nat) (isCrash : Bool) (sp ip v l : Nat) (bs : Bytes)
    (hgs : getStackInfo env.ms env.page sp = .ok (v, l))
    (hrd : env.read (capRegion v l sp (maxStackLen cfg.limit (extraLimit cfg.limit n currPos) idx isCrash)).1
      (capRegion v l sp (maxStackLen cfg.limit (extraLimit cfg.limit n currPos) idx isCrash)).2 = some bs)
    (hb : sp ≤ (capRegion v l sp (maxStackLen cfg.limit (extraLimit cfg.limit n currPos) idx isCrash)).1) :
    gatherStack env cfg idx n currPos isCrash sp ip =
      (if !includeStack cfg.skip cfg.principal ip bs 0 then .ok none
       else if cfg.sanitize then
         match sanitize env.ms bs sp 0 with
         | .ok b => .ok (some ((capRegion v l sp (maxStackLen cfg.limit (extraLimit cfg.limit n currPos) idx isCrash)).1, b))
         | .err c => .err c
         | .panic w => .panic w
         | .fuelOut => .fuelOut
       else .ok (some ((capRegion v l sp (maxStackLen cfg.limit (extraLimit cfg.limit n currPos) idx isCrash)).1, bs))) := by
  simp only [gatherStack_eq, hgs, hrd, recordStack, Nat.sub_eq_zero_of_le hb]
  cases includeStack cfg.skip cfg.principal ip bs 0 <;> cases cfg.sanitize <;> try rfl
  cases sanitize env.ms bs sp 0 <;> rfl

/-- … so a reference to the principal mapping in *any* aligned word of the copy — the very first included — keeps the
    stack (no sanitization: the copy is recorded as read) -/
theorem SpBelow_reference_keeps_stack (env : GEnv) (cfg : GCfg) (idx n currPos : Nat) (isCrash : Bool) (sp ip v l : Nat)
    (bs : Bytes) (low high k : Nat)
    (hgs : getStackInfo env.ms env.page sp = .ok (v, l))
    (hrd : env.read (capRegion v l sp (maxStackLen cfg.limit (extraLimit cfg.limit n currPos) idx isCrash)).1
      (capRegion v l sp (maxStackLen cfg.limit (extraLimit cfg.limit n currPos) idx isCrash)).2 = some bs)
    (hb : sp ≤ (capRegion v l sp (maxStackLen cfg.limit (extraLimit cfg.limit n currPos) idx isCrash)).1)
    (hns : cfg.sanitize = false) (hp : cfg.principal = some (low, high))
    (hk : 8 * k + 8 ≤ bs.length) (hw1 : low ≤ unle ((bs.drop (8 * k)).take 8)) (hw2 : unle ((bs.drop (8 * k)).take 8) < high) :
    gatherStack env cfg idx n currPos isCrash sp ip =
      .ok (some ((capRegion v l sp (maxStackLen cfg.limit (extraLimit cfg.limit n currPos) idx isCrash)).1, bs)) := by
  rw [SpBelow_offset_zero env cfg idx n currPos isCrash sp ip v l bs hgs hrd hb]
  have hinc : includeStack cfg.skip cfg.principal ip bs 0 = true := by
    refine (C20_include_iff _ _ _ _ _).mpr (Or.inr ⟨low, high, hp, Or.inr ⟨k, ?_, ?_, ?_⟩⟩)
    · unfold slotInside align8; simpa using hk
    · unfold slotWord align8; simpa using hw1
    · unfold slotWord align8; simpa using hw2
  simp [hinc, hns]

end Mdw
