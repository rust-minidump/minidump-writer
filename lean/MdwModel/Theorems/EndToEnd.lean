/-
  From the target to the image, for thread stacks: the gathering step of `fill_thread_stack`
  (src/linux/sections/thread_list_stream.rs) composed from the models of its parts —
  `get_stack_info` (C06), the size-limit shortening (C06), `copy_from_process` (an oracle for the target's memory,
  C17), the unreferenced-stack rule (C20), `sanitize_stack_copy` (C12) — and then placed into the image by the
  whole-image model (Theorems/Image.lean).
-/
import MdwModel.Theorems.Image
import MdwModel.Model.Gather
import MdwModel.Generated.Source
import MdwModel.Theorems.C06
import MdwModel.Theorems.C20
import MdwModel.Theorems.C12
import MdwModel.Theorems.C08
import MdwModel.Lemmas.Gather
namespace Mdw

/-- **Proof obligation over the regenerated source.** The steps of `fill_thread_stack`, in the order the Rust text has
    them now, are the steps of `gatherStack` in the model's order (or the function is no longer recognisable to the
    extractor, in which case the live correspondence alone carries the tie). -/
theorem gather_order_agrees : Src.fillThreadStackSteps = none ∨ Src.fillThreadStackSteps = some gatherSteps := by decide

/-- **Proof obligation over the regenerated source.** The thread-list loop gathers the crash context's thread without a
    stack-length cap (`gatherThread` passes `isCrash = true`, which `maxStackLen` turns into "no cap") — or the loop is
    no longer recognisable to the extractor. -/
theorem gather_crash_unlimited : Src.crashThreadUnlimited = none ∨ Src.crashThreadUnlimited = some true := by decide

theorem WfMaps.hullOk {ms : List Mapping} (h : WfMaps ms) : HullOk ms :=
  fun m hm => ⟨(h.hull m hm).1, (h.hull m hm).2.1⟩

/-- the reader returns what was asked for, from the target's memory `mem` -/
def ReadsExactly (env : GEnv) (mem : Nat → UInt8) : Prop :=
  ∀ a n bs, env.read a n = some bs → bs = (List.range n).map (fun k => mem (a + k))

/-- … for requests inside `[lo, hi)` (what a reader over paged memory guarantees where the pages are readable:
    Theorems/EndToEndMem.lean) -/
def ReadsExactlyIn (env : GEnv) (mem : Nat → UInt8) (lo hi : Nat) : Prop :=
  ∀ a n bs, lo ≤ a → a + n ≤ hi → env.read a n = some bs → bs = (List.range n).map (fun k => mem (a + k))

theorem ReadsExactly.within {env : GEnv} {mem : Nat → UInt8} (h : ReadsExactly env mem) (lo hi : Nat) :
    ReadsExactlyIn env mem lo hi := fun a n bs _ _ hrd => h a n bs hrd

theorem ReadsExactlyIn.read {env : GEnv} {mem : Nat → UInt8} {lo hi a n : Nat} {bs : Bytes}
    (hr : ReadsExactlyIn env mem lo hi) (h1 : lo ≤ a) (h2 : a + n ≤ hi) (hrd : env.read a n = some bs) :
    bs.length = n ∧ bs = (List.range bs.length).map (fun k => mem (a + k)) := by
  have hb := hr a n bs h1 h2 hrd
  have hl : bs.length = n := by rw [hb, List.length_map, List.length_range]
  exact ⟨hl, hl.symm ▸ hb⟩

theorem range_map_get (n : Nat) (f : Nat → UInt8) (k : Nat) (hk : k < n) : ((List.range n).map f)[k]? = some (f k) := by
  simp [hk]

theorem stackRegion_spec (cfg : GCfg) (idx n currPos : Nat) (isCrash : Bool) (v l sp : Nat) (hin : v ≤ sp ∧ sp < v + l) :
    let r := stackRegion cfg idx n currPos isCrash v l sp
    v ≤ r.1 ∧ r.1 + r.2 ≤ v + l ∧ r.1 ≤ sp ∧ sp < r.1 + r.2 ∧
    (maxStackLen cfg.limit (extraLimit cfg.limit n currPos) idx isCrash = none → r = (v, l)) ∧
    (r.1 + r.2 < v + l →
      cfg.limit.isSome ∧ LIMIT_BASE_THREAD_COUNT ≤ idx ∧ isCrash = false ∧ r.2 ≤ LIMIT_MAX_EXTRA_THREAD_STACK_LEN) := by
  unfold stackRegion
  cases hcap : maxStackLen cfg.limit (extraLimit cfg.limit n currPos) idx isCrash with
  | none => exact ⟨Nat.le_refl _, Nat.le_refl _, hin.1, hin.2, fun _ => rfl, fun h => absurd h (Nat.lt_irrefl _)⟩
  | some c =>
    obtain ⟨hc, hidx, hcr, lim, hlim, _⟩ := C06_only_extra_threads_shortened _ _ _ _ _ _ hcap
    obtain ⟨c1, c2, c3, _, c5, c6, _⟩ := C06_cap v l sp c (by omega) hin
    refine ⟨c1, c2, c5, c6, (fun h => nomatch h), fun _ => ⟨by rw [hlim]; rfl, hidx, hcr, ?_⟩⟩
    simp only [LIMIT_MAX_EXTRA_THREAD_STACK_LEN]
    omega

theorem gather_inv (env : GEnv) (cfg : GCfg) (idx n currPos : Nat) (isCrash : Bool) (sp ip start : Nat) (bytes : Bytes)
    (hg : gatherStack env cfg idx n currPos isCrash sp ip = .ok (some (start, bytes))) :
    ∃ v l bs, getStackInfo env.ms env.page sp = .ok (v, l) ∧
      env.read (capRegion v l sp (maxStackLen cfg.limit (extraLimit cfg.limit n currPos) idx isCrash)).1
        (capRegion v l sp (maxStackLen cfg.limit (extraLimit cfg.limit n currPos) idx isCrash)).2 = some bs ∧
      start = (capRegion v l sp (maxStackLen cfg.limit (extraLimit cfg.limit n currPos) idx isCrash)).1 ∧
      includeStack cfg.skip cfg.principal ip bs (sp - start) = true ∧
      (cfg.sanitize = false → bytes = bs) ∧
      (cfg.sanitize = true → sanitize env.ms bs sp (sp - start) = .ok bytes) := by
  rw [gatherStack_eq] at hg
  split at hg
  · rename_i v l hgs
    split at hg
    · cases hg
    · rename_i bs hrd
      obtain ⟨rfl, hinc, hb⟩ := recordStack_ok_some.mp hg
      exact ⟨v, l, bs, hgs, hrd, rfl, hinc, fun hs => by simpa [hs] using hb, fun hs => by simpa [hs] using hb⟩
  · cases hg

theorem capRegion_within (v l sp : Nat) (cap : Option Nat) (lo hi : Nat) (h1 : lo ≤ v) (h2 : v + l ≤ hi)
    (hin : v ≤ sp ∧ sp < v + l) (hc : ∀ c, cap = some c → 0 < c) :
    lo ≤ (capRegion v l sp cap).1 ∧ (capRegion v l sp cap).1 + (capRegion v l sp cap).2 ≤ hi := by
  cases cap with
  | none => exact ⟨h1, h2⟩
  | some c =>
    obtain ⟨c1, c2, _⟩ := C06_cap v l sp c (hc c rfl) hin
    exact ⟨Nat.le_trans h1 c1, Nat.le_trans c2 h2⟩

/-- **The recorded stack of a thread whose stack pointer lies in an accessible mapping.** What was copied is the
    target's memory of `[start, start + len)`, a region of the mapping around the stack pointer: the rest of the mapping
    from the stack pointer's page (or from the mapping's start), or a part of it of at most 2 KiB for a late thread
    under a limit. The copy passed the inclusion rule, and what is recorded is the copy, sanitized if so configured.
    Nothing is assumed of the configuration. -/
theorem gatherStack_mapped (env : GEnv) (cfg : GCfg) (mem : Nat → UInt8) (idx n currPos : Nat) (isCrash : Bool) (sp ip : Nat)
    (m : Mapping) (start : Nat) (bytes : Bytes)
    (hp : 0 < env.page) (hw : HullOk env.ms) (hr : ReadsExactlyIn env mem m.start (m.start + m.size))
    (hf : findMapping env.ms (sp - sp % env.page) = some m) (hs : mayBeStack (some m) = true) (hsp : sp < m.start + m.size)
    (hg : gatherStack env cfg idx n currPos isCrash sp ip = .ok (some (start, bytes))) :
    ∃ raw, raw = (List.range raw.length).map (fun k => mem (start + k)) ∧
      m.start ≤ start ∧ start ≤ sp ∧ sp < start + raw.length ∧ start + raw.length ≤ m.start + m.size ∧
      includeStack cfg.skip cfg.principal ip raw (sp - start) = true ∧
      (cfg.sanitize = false → bytes = raw) ∧ (cfg.sanitize = true → sanitize env.ms raw sp (sp - start) = .ok bytes) ∧
      (maxStackLen cfg.limit (extraLimit cfg.limit n currPos) idx isCrash = none →
        start + raw.length = m.start + m.size ∧ (start = sp - sp % env.page ∨ start = m.start)) ∧
      (start + raw.length < m.start + m.size →
        cfg.limit.isSome ∧ LIMIT_BASE_THREAD_COUNT ≤ idx ∧ isCrash = false ∧ raw.length ≤ LIMIT_MAX_EXTRA_THREAD_STACK_LEN) := by
  obtain ⟨v, l, hgs, hv1, hv2, hv3, hv4⟩ := C06_mapped env.ms env.page sp m hp hw hf hs hsp
  obtain ⟨v', l', bs, hgs', hrd, rfl, hinc, hraw, hsz⟩ := gather_inv env cfg idx n currPos isCrash sp ip start bytes hg
  rw [hgs] at hgs'
  cases hgs'
  have hreg := stackRegion_spec cfg idx n currPos isCrash v l sp ⟨hv1, hv2⟩
  simp only [stackRegion, hv3] at hreg
  obtain ⟨r1, r2, r3, r4, r5, r6⟩ := hreg
  have hvlo : m.start ≤ v := hv4.elim (· ▸ (findMapping_some hf).2.1) (· ▸ Nat.le_refl _)
  have hlo := Nat.le_trans hvlo r1
  obtain ⟨hl, hbs⟩ := hr.read hlo r2 hrd
  rw [← hl] at r2 r4 r6
  exact ⟨bs, hbs, hlo, r3, r4, r2, hinc, hraw, hsz, fun h => by rw [hl, r5 h]; exact ⟨hv3, hv4⟩, r6⟩

/-- **End to end (stack region).** A thread whose stack pointer lies in an accessible mapping and whose stack is kept
    gets a captured region that contains the stack pointer and ends inside the mapping: without a cap it runs from the
    stack pointer's page (or the mapping's start) to the mapping's end; it ends before that only for a late thread under
    a limit and is then at most 2 KiB long — and, without sanitization, its bytes are the target's. -/
theorem E2E_stack_contains_sp (env : GEnv) (cfg : GCfg) (mem : Nat → UInt8) (idx n currPos : Nat) (isCrash : Bool) (sp ip : Nat)
    (m : Mapping) (start : Nat) (bytes : Bytes)
    (hp : 0 < env.page) (hw : HullOk env.ms) (hr : ReadsExactlyIn env mem m.start (m.start + m.size))
    (hf : findMapping env.ms (sp - sp % env.page) = some m) (hs : mayBeStack (some m) = true) (hsp : sp < m.start + m.size)
    (hsan : cfg.sanitize = true → WfMaps env.ms ∧ sp + 7 < 2 ^ 64)
    (hg : gatherStack env cfg idx n currPos isCrash sp ip = .ok (some (start, bytes))) :
    start ≤ sp ∧ sp < start + bytes.length ∧ start + bytes.length ≤ m.start + m.size ∧
    -- unsanitized: the bytes are the target's
    (cfg.sanitize = false → ∀ k, k < bytes.length → bytes[k]? = some (mem (start + k))) ∧
    -- sanitized: nothing below the (aligned) stack pointer survives
    (cfg.sanitize = true → ∀ k, k < min (align8 (sp - start)) bytes.length → bytes[k]? = some 0) ∧
    -- not shortened: from the stack pointer's page (or the mapping's start) to the mapping's end
    (maxStackLen cfg.limit (extraLimit cfg.limit n currPos) idx isCrash = none →
      start + bytes.length = m.start + m.size ∧ (start = sp - sp % env.page ∨ start = m.start)) ∧
    -- shortened only under a limit, at list position ≥ 20, never the crash-context thread, to at most 2 KiB
    (start + bytes.length < m.start + m.size →
      cfg.limit.isSome ∧ LIMIT_BASE_THREAD_COUNT ≤ idx ∧ isCrash = false ∧ bytes.length ≤ LIMIT_MAX_EXTRA_THREAD_STACK_LEN) := by
  obtain ⟨raw, hraw, _, g2, g3, g4, _, huns, hsn, g7, g8⟩ :=
    gatherStack_mapped env cfg mem idx n currPos isCrash sp ip m start bytes hp hw hr hf hs hsp hg
  -- the record is the copy, or its sanitization, which is as long
  cases hc : cfg.sanitize with
  | false =>
    obtain rfl := huns hc
    exact ⟨g2, g3, g4, fun _ k hk => by rw [hraw]; exact range_map_get _ _ k hk, (fun h => nomatch h), g7, g8⟩
  | true =>
    obtain ⟨hwf, hsp7⟩ := hsan hc
    have hpre : C12Pre env.ms (sp - start) := ⟨hwf, Nat.lt_of_le_of_lt (Nat.add_le_add_right (Nat.sub_le sp start) 7) hsp7⟩
    obtain ⟨hl, hz, _⟩ := sanitize_ok hpre (hsn hc)
    rw [hl]
    exact ⟨g2, g3, g4, (fun h => nomatch h), fun _ => hl ▸ hz, g7, g8⟩

/-- **End to end (skipping).** Without sanitization, whether the stack is recorded is decided by the inclusion rule on
    the copy that was taken (the shortened one, for a late thread under a limit). -/
theorem E2E_skip_iff (env : GEnv) (cfg : GCfg) (idx n currPos : Nat) (isCrash : Bool) (sp ip v l : Nat) (bs : Bytes)
    (hgs : getStackInfo env.ms env.page sp = .ok (v, l)) (hns : cfg.sanitize = false)
    (hrd : env.read (capRegion v l sp (maxStackLen cfg.limit (extraLimit cfg.limit n currPos) idx isCrash)).1
      (capRegion v l sp (maxStackLen cfg.limit (extraLimit cfg.limit n currPos) idx isCrash)).2 = some bs) :
    let r := capRegion v l sp (maxStackLen cfg.limit (extraLimit cfg.limit n currPos) idx isCrash)
    (gatherStack env cfg idx n currPos isCrash sp ip = .ok none ↔ includeStack cfg.skip cfg.principal ip bs (sp - r.1) = false) ∧
    (gatherStack env cfg idx n currPos isCrash sp ip = .ok (some (r.1, bs)) ↔ includeStack cfg.skip cfg.principal ip bs (sp - r.1) = true) := by
  intro r
  simp only [gatherStack_eq, hgs, hrd]
  exact ⟨recordStack_ok_none, by simp [recordStack_ok_some, hns, r]⟩

/-- **End to end (into the image).** A dump whose `k`-th thread carries the gathered region stores exactly that region:
    the record's stack range is its start and length, the image holds its bytes at the stored location, and the
    memory list has a block for it at the same location. -/
theorem E2E_stack_in_image (d : DumpIn) (k : Nat) (t : DThread) (start : Nat) (bytes : Bytes)
    (hk : d.threads[k]? = some t) (hst : t.stack = some (start, bytes))
    (hsz : (dumpBytes d).length < 2 ^ 32) (htid : t.tid < 2 ^ 32) (hstart : start < 2 ^ 64) :
    let i := Img.ofBytes (dumpBytes d)
    let o := 32 + 12 * d.numWriters + 4 + 48 * k
    i.u64 (o + 24) = some start ∧ i.u32 (o + 32) = some bytes.length ∧ i.u32 (o + 36) = some (threadPos d k) ∧
    i.bytes (threadPos d k) bytes.length = some bytes ∧
    (⟨start, bytes.length, threadPos d k⟩ : Desc) ∈ (acc3 d).blocks := by
  intro i o
  obtain ⟨_, h2, h3, h4, _, _, h7, _⟩ := Image_thread_read d k t hk hsz htid (by rw [hst]; exact hstart)
  simp only [DThread.stackLen, DThread.stackBytes, hst] at h2 h3 h7
  exact ⟨h2, h3, h4, h7, ((Image_thread_block d k t hk).1 start bytes hst).1⟩

theorem gatherWindow_spec_in (env : GEnv) (mem : Nat → UInt8) (ip wlo lo hi : Nat) (b : Bytes)
    (hr : ReadsExactlyIn env mem lo hi)
    (hin : ∀ a n, ipWindow env.ms ip = some (a, n) → lo ≤ a ∧ a + n ≤ hi)
    (h : gatherWindow env ip = .ok (some (wlo, b))) :
    ipWindow env.ms ip = some (wlo, b.length) ∧ b = (List.range b.length).map (fun k => mem (wlo + k)) := by
  unfold gatherWindow at h
  split at h
  · cases h
  · rename_i lo' len hw
    split at h
    · cases h
    · rename_i hrd
      cases h
      obtain ⟨hb1, hb2⟩ := hin _ _ hw
      obtain ⟨hl, hb⟩ := hr.read hb1 hb2 hrd
      exact ⟨hl ▸ hw, hb⟩

/-- The gathered window when `m` is the first mapping that contains the instruction pointer and the reader is exact on
    `m`: up to 128 bytes on either side, clipped to `m`, holding the target's bytes. The gathering having succeeded, a
    window was gathered. -/
theorem gatherWindow_mapped {env : GEnv} {mem : Nat → UInt8} {ip : Nat} {m : Mapping} {w : Option (Nat × Bytes)}
    (hm : env.ms.find? (fun m => !(decide (ip < m.start) || decide (ip ≥ m.start + m.size))) = some m)
    (hr : ReadsExactlyIn env mem m.start (m.start + m.size)) (hw : gatherWindow env ip = .ok w) :
    ∃ lo b, w = some (lo, b) ∧ lo = max m.start (ip - 128) ∧ lo + b.length = min (m.start + m.size) (ip + 128) ∧
      b = (List.range b.length).map (fun j => mem (lo + j)) := by
  obtain ⟨hwin, hp1, hp2⟩ := ipWindow_of_find hm
  unfold gatherWindow at hw
  simp only [hwin] at hw
  -- the window is not empty and lies in `m`
  have h2 : max m.start (ip - 128) ≤ ip := Nat.max_le.mpr ⟨hp1, Nat.sub_le _ _⟩
  have h3 : ip < min (m.start + m.size) (ip + 128) := Nat.lt_min.mpr ⟨hp2, by omega⟩
  have hlh := Nat.add_sub_cancel' (Nat.le_of_lt (Nat.lt_of_le_of_lt h2 h3))
  split at hw
  · cases hw
  · rename_i b hrd
    cases hw
    obtain ⟨hl, hb⟩ := hr.read (Nat.le_max_left _ _) (Nat.le_trans (Nat.le_of_eq hlh) (Nat.min_le_left _ _)) hrd
    exact ⟨_, b, rfl, rfl, by rw [hl, hlh], hb⟩

/-- **End to end (the thread of the crash context).** Whatever its position in the list and whatever the size limit,
    the thread the crash context blames is gathered from the crash context: its stack pointer, instruction pointer and
    registers are the supplied ones, its stack is gathered as the crash-context thread (never shortened), and the
    window around the supplied instruction pointer is what the window rule prescribes, read from the target. -/
theorem E2E_crash_thread (env : GEnv) (cfg : GCfg) (c : CrashIn) (blamed idx n currPos : Nat) (t : TInfo) (d : DThread)
    (hb : t.tid = blamed) (h : gatherThread env cfg (some c) blamed idx n currPos t = .ok d) :
    d.tid = t.tid ∧ d.sp = c.sp ∧ d.ip = c.ip ∧ d.ctx = c.ctx ∧
    gatherStack env cfg idx n currPos true c.sp c.ip = .ok d.stack ∧
    gatherWindow env c.ip = .ok d.window := by
  rw [gatherThread_blamed hb] at h
  obtain ⟨stack, hs, h⟩ := Outcome.bind_eq_ok.mp h
  obtain ⟨window, hw, h⟩ := Outcome.bind_eq_ok.mp h
  cases h
  exact ⟨rfl, rfl, rfl, rfl, hs, hw⟩

/-- **End to end (the crash-context thread is never shortened).** Under any size limit and at any list position, the
    recorded stack of the thread the crash context blames reaches the end of the mapping that holds the supplied
    stack pointer and starts on the stack pointer's page (or at the mapping's start). -/
theorem E2E_crash_thread_full (env : GEnv) (cfg : GCfg) (mem : Nat → UInt8) (c : CrashIn) (blamed idx n currPos : Nat)
    (t : TInfo) (d : DThread) (m : Mapping) (start : Nat) (bytes : Bytes)
    (hp : 0 < env.page) (hw : HullOk env.ms) (hr : ReadsExactlyIn env mem m.start (m.start + m.size))
    (hf : findMapping env.ms (c.sp - c.sp % env.page) = some m) (hs : mayBeStack (some m) = true) (hsp : c.sp < m.start + m.size)
    (hsan : cfg.sanitize = true → WfMaps env.ms ∧ c.sp + 7 < 2 ^ 64)
    (hb : t.tid = blamed) (h : gatherThread env cfg (some c) blamed idx n currPos t = .ok d)
    (hst : d.stack = some (start, bytes)) :
    start ≤ c.sp ∧ c.sp < start + bytes.length ∧ start + bytes.length = m.start + m.size ∧
    (start = c.sp - c.sp % env.page ∨ start = m.start) := by
  obtain ⟨_, _, _, _, hg, _⟩ := E2E_crash_thread env cfg c blamed idx n currPos t d hb h
  rw [hst] at hg
  obtain ⟨h1, h2, _, _, _, h6, _⟩ := E2E_stack_contains_sp env cfg mem idx n currPos true c.sp c.ip m start bytes hp hw hr hf hs hsp hsan hg
  have := h6 (C06_not_shortened _ _ _ _ (Or.inr (Or.inl rfl)))
  exact ⟨h1, h2, this.1, this.2⟩

/-- … and every other thread from what ptrace reported, shortened by its position only -/
theorem E2E_other_thread (env : GEnv) (cfg : GCfg) (crash : Option CrashIn) (blamed idx n currPos : Nat) (t : TInfo) (d : DThread)
    (hb : crash = none ∨ t.tid ≠ blamed) (h : gatherThread env cfg crash blamed idx n currPos t = .ok d) :
    d.tid = t.tid ∧ d.sp = t.sp ∧ d.ip = t.ip ∧ d.ctx = t.ctx ∧ d.window = none ∧
    gatherStack env cfg idx n currPos false t.sp t.ip = .ok d.stack := by
  rw [gatherThread_other hb] at h
  obtain ⟨stack, hs, h⟩ := Outcome.bind_eq_ok.mp h
  cases h
  exact ⟨rfl, rfl, rfl, rfl, rfl, hs⟩

theorem gatherThread_tid {env : GEnv} {cfg : GCfg} {crash : Option CrashIn} {blamed idx n currPos : Nat} {t : TInfo}
    {d : DThread} (h : gatherThread env cfg crash blamed idx n currPos t = .ok d) : d.tid = t.tid := by
  rcases blamed_or_other crash blamed t with ⟨c, rfl, hc⟩ | hc
  · exact (E2E_crash_thread env cfg c blamed _ _ _ t d hc h).1
  · exact (E2E_other_thread env cfg crash blamed _ _ _ t d hc h).1

/-- **End to end (every listed thread).** A successful gathering lists the threads one to one in order; the `k`-th is
    gathered at list position `k` of `n` with the limit decision taken at header + directory + count + records. -/
theorem E2E_threads (env : GEnv) (cfg : GCfg) (crash : Option CrashIn) (blamed numWriters : Nat) (ts : List TInfo)
    (ds : List DThread) (h : gatherThreads env cfg crash blamed numWriters ts = .ok ds) :
    ds.length = ts.length ∧ ds.map (·.tid) = ts.map (·.tid) ∧
    ∀ k t, ts[k]? = some t → ∃ d, ds[k]? = some d ∧
      gatherThread env cfg crash blamed k ts.length (32 + 12 * numWriters + 4 + 48 * ts.length) t = .ok d := by
  rw [gatherThreads, gatherThreadsFrom_eq] at h
  obtain ⟨hl, hget⟩ := Outcome.forIdx_ok h
  refine ⟨hl, List.ext_getElem? fun k => ?_, fun k t hk => by simpa using hget k t hk⟩
  simp only [List.getElem?_map]
  cases hk : ts[k]? with
  | none =>
    rw [List.getElem?_eq_none_iff] at hk
    rw [List.getElem?_eq_none (by omega)]
    rfl
  | some t =>
    obtain ⟨d, h1, h2⟩ := hget k t hk
    rw [h1]
    exact congrArg some (gatherThread_tid h2)

/-- **End to end (the window around the crash instruction pointer, into the image).** A dump whose thread list is the
    gathered one, with a crash context whose instruction pointer lies in a mapping: the blamed thread's record is
    followed in the memory list's blocks by a region that covers up to 128 bytes on either side of the instruction
    pointer, clipped to that mapping, located right after the thread's stack in the image, holding the target's
    bytes. -/
theorem E2E_window_in_image (env : GEnv) (cfg : GCfg) (mem : Nat → UInt8) (c : CrashIn) (blamed : Nat) (ts : List TInfo)
    (d : DumpIn) (k : Nat) (t : TInfo) (hr : ReadsExactly env mem)
    (hg : gatherThreads env cfg (some c) blamed d.numWriters ts = .ok d.threads)
    (hk : ts[k]? = some t) (hb : t.tid = blamed)
    (m : Mapping) (hm : env.ms.find? (fun m => !(decide (c.ip < m.start) || decide (c.ip ≥ m.start + m.size))) = some m) :
    ∃ dt lo b, d.threads[k]? = some dt ∧ dt.window = some (lo, b) ∧
      lo = max m.start (c.ip - 128) ∧ lo + b.length = min (m.start + m.size) (c.ip + 128) ∧
      b = (List.range b.length).map (fun j => mem (lo + j)) ∧
      (⟨lo, b.length, threadPos d k + dt.stackLen⟩ : Desc) ∈ (acc3 d).blocks ∧
      At (dumpBytes d) (threadPos d k + dt.stackLen) b := by
  obtain ⟨_, _, hget⟩ := E2E_threads env cfg (some c) blamed d.numWriters ts d.threads hg
  obtain ⟨dt, hdk, hgt⟩ := hget k t hk
  obtain ⟨_, _, _, _, _, hw⟩ := E2E_crash_thread env cfg c blamed _ _ _ t dt hb hgt
  obtain ⟨lo, b, hdw, h1, h2, h3⟩ := gatherWindow_mapped hm (hr.within _ _) hw
  have hblk := (Image_thread_block d k dt hdk).2 lo b hdw
  exact ⟨dt, lo, b, hdk, hdw, h1, h2, h3, hblk.1, hblk.2⟩

/-- a module of the module-list model (Model/Modules.lean) as content of the image model: the name converted to
    UTF-16 units by the (trusted, C16) encoder `utf16` -/
def toDModule (utf16 : Bytes → List Nat) (m : Mod.Module) : DModule :=
  ⟨m.base, m.size, m.ident, utf16 m.name, m.version.map (fun v => (v.major, v.minor, v.patch, v.prerelease))⟩

/-- **End to end (modules).** A dump whose module content is the module list the mappings writer gathers (the model of
    `sections::mappings::write`: C08, over the aggregated mappings: C13): every target mapping that is interesting,
    not covered by a caller mapping and has a usable identifier has a record in the image's module list — base
    address, size, CodeView record = ELF signature ‖ identifier at the location the record names, name string right
    behind it; the stream sits in directory slot 1 and counts exactly the gathered modules. -/
theorem E2E_module_in_image (decode : Bytes → List Char) (utf16 : Bytes → List Nat) (d : DumpIn)
    (ms : List Mapping) (facts : Mapping → Mod.Facts) (us : Mod.UserMap → Option Bytes) (users : List Mod.UserMap)
    (hd : d.modules = (Mod.moduleList decode ms facts us users).map (toDModule utf16))
    (m : Mapping) (hm : m ∈ ms) (hi : Mod.isInteresting m = true) (hc : Mod.isContainedIn m users = false)
    (hid : Mod.idUsable (Mod.identifierOf (facts m)) = true) :
    ∃ k dm, d.modules[k]? = some dm ∧
      dm.base = m.start ∧ dm.size = m.size % 2 ^ 32 ∧ dm.ident = Mod.identifierOf (facts m) ∧
      dm.name = utf16 (Mod.effectivePath m (Mod.sonameOf (facts m))) ∧
      (dumpAcc d).dir[1]? = some ⟨ST_MODULE_LIST, 4 + 108 * d.modules.length, (acc1 d).pos + (moduleBlobs d.modules).length⟩ ∧
      d.modules.length = (Mod.moduleList decode ms facts us users).length ∧
      At (dumpBytes d) ((acc1 d).pos + (moduleBlobs d.modules).length + 4 + 108 * k) (moduleRec (modulePos d k) dm) ∧
      At (dumpBytes d) (modulePos d k) (le 4 0x4270454c ++ dm.ident) ∧
      At (dumpBytes d) (modulePos d k + (4 + dm.ident.length)) (mdStr dm.name) := by
  obtain ⟨rm, hrm⟩ := Option.isSome_iff_exists.mp ((Mod.C08_listed_iff decode users m (facts m)).mpr ⟨hi, hc, hid⟩)
  obtain ⟨f1, f2, f3, f4⟩ := Mod.C08_listed_fields decode users m (facts m) rm hrm
  have hmem : rm ∈ Mod.moduleList decode ms facts us users :=
    List.mem_append_left _ (List.mem_filterMap.mpr ⟨m, hm, hrm⟩)
  obtain ⟨k, hk⟩ := List.getElem?_of_mem hmem
  have hdk : d.modules[k]? = some (toDModule utf16 rm) := by rw [hd, List.getElem?_map, hk]; rfl
  obtain ⟨h1, _, h3, h4, h5⟩ := Image_module d k _ hdk
  -- a usable identifier is not empty, so there is a CodeView record
  have hcv : (toDModule utf16 rm).cv = le 4 0x4270454c ++ rm.ident := by
    have hne : rm.ident.isEmpty = false := by
      rw [f3]
      simp only [Mod.idUsable, Bool.and_eq_true, Bool.not_eq_true'] at hid
      exact hid.1
    simp [DModule.cv, toDModule, hne]
  rw [hcv] at h4 h5
  rw [List.length_append, le_length] at h5
  exact ⟨k, _, hdk, f1, f2, f3, congrArg utf16 f4, h1, by rw [hd]; simp, h3, h4, h5⟩

/-- Non-vacuity: a guard page below a stack mapping, the stack pointer inside the stack mapping, a reader that
    answers every request; thread 25 of 30 under a size limit that is already exhausted: the gathering records a
    (shortened) region, so the hypotheses of `E2E_stack_contains_sp` are met by an evaluated instance. -/
example :
    let guard : Mapping := ⟨0x10000, 0x1000, 0x10000, 0x11000, 0, 16, none⟩
    let stk : Mapping := ⟨0x11000, 0x8000, 0x11000, 0x19000, 0, 3 + 16, none⟩
    let env : GEnv := ⟨[guard, stk], 4096, fun _ n => some (List.replicate n 0)⟩
    let cfg : GCfg := ⟨some 0, false, false, none⟩
    findMapping env.ms (0x12345 - 0x12345 % env.page) = some stk ∧ mayBeStack (some stk) = true ∧
    (match gatherStack env cfg 25 30 100000 false 0x12345 0x400000 with
     | .ok (some (s, _)) => s == 0x12000 | _ => false) = true := by decide

end Mdw
