/-
  C15 — Thread names are attached to the right threads  (thread_names_stream::write, repaired)

    C15_layout     for every thread list (any subset unnamed, any names; thread ids below 2 ^ 31, image below
                   4 GiB) the stream is exactly
                   count ‖ one record per *named* thread, in order ‖ the names' strings, in order,
                   and record k carries (tid of the k-th named thread, offset of the k-th string)
    C15_entry_points_to_name   the offset stored in record k is where the k-th name's
                   length-prefixed UTF-16 string sits
    C15_image_refines   … which is the thread-names stage of the image model
    C15_image_name      what a reader finds of it in the image of any content
    C15_legacy_counterexample  the unrepaired indexing corrupts the stream for [unnamed, "a"]
-/
import MdwModel.Model.ThreadNames
import MdwModel.Theorems.C16
import MdwModel.Theorems.Image
import MdwModel.Theorems.RefineLoop
namespace Mdw

def strBytesOf (us : List Nat) : Bytes := le 4 (2 * us.length) ++ units16LE us
def strLen (us : List Nat) : Nat := 4 + 2 * us.length

theorem strBytesOf_length (us : List Nat) : (strBytesOf us).length = strLen us := mdStr_length us

/-- records of the named threads; `rva` = offset of the first thread's string -/
def recsFrom (rva : Nat) : List (Nat × List Nat) → Bytes
  | [] => []
  | (t, u) :: r => nameRecord t rva ++ recsFrom (rva + strLen u) r

def strsOf (nl : List (Nat × List Nat)) : Bytes := nl.flatMap (fun p => strBytesOf p.2)

def strsLen (nl : List (Nat × List Nat)) : Nat := (nl.map (fun p => strLen p.2)).sum

theorem strsOf_length (nl : List (Nat × List Nat)) : (strsOf nl).length = strsLen nl := by
  rw [strsOf, ← sumLen_flatMap]
  simp only [sumLen, strsLen, strBytesOf_length]

theorem nameRecs_eq_recsFrom (pos : Nat) (ns : List (Nat × List Nat)) : nameRecs pos ns = recsFrom pos ns := by
  induction ns generalizing pos with
  | nil => rfl
  | cons a r ih => obtain ⟨t, u⟩ := a; simp [nameRecs, recsFrom, ih, mdStr_length, strLen]

theorem recsFrom_length (rva : Nat) (nl : List (Nat × List Nat)) : (recsFrom rva nl).length = 12 * nl.length :=
  nameRecs_eq_recsFrom rva nl ▸ nameRecs_length rva nl

theorem namesLoop_skip (arr : Arr) (b : Buf) (k : Nat) (ts : List NThread) :
    namesLoop arr b k ts = namesLoop arr b k ((expectedNames ts).map (fun p => (p.1, some p.2))) := by
  induction ts generalizing b k with
  | nil => rfl
  | cons t ts ih =>
    obtain ⟨tid, nm⟩ := t
    cases nm with
    | none => simp only [namesLoop, expectedNames, List.filterMap_cons, Option.map_none]; exact ih b k
    | some us =>
      simp only [namesLoop, expectedNames, List.filterMap_cons, Option.map_some, List.map_cons]
      cases hw : writeString b us with
      | ok r =>
        obtain ⟨b1, loc⟩ := r
        simp only
        split
        · rfl
        · cases hs : arr.setValueAt b1 (nameRecord tid loc.rva) k with
          | none => rfl
          | some b2 => simp only; exact ih b2 (k + 1)
      | err c => rfl
      | panic w => rfl
      | fuelOut => rfl

theorem recsFrom_eq_recsGen (rva : Nat) (nl : List (Nat × List Nat)) :
    recsFrom rva nl = recsGen (fun p (x : Nat × List Nat) => nameRecord x.1 p) (fun x => strLen x.2) rva nl :=
  recsGen_unique (fun _ => rfl) (fun _ _ _ => rfl) rva nl

theorem namesLoop_sim (arr : Arr) (b b' : Buf) (k : Nat) (nl : List (Nat × List Nat))
    (htid : ∀ p ∈ nl, p.1 < 2 ^ 31)
    (hfill : fillLoop (fun p (x : Nat × List Nat) => nameRecord x.1 p) (fun x => strBytesOf x.2) arr b k nl = some b')
    (hlen : b'.len < 2 ^ 32) :
    namesLoop arr b k (nl.map (fun p => (p.1, some p.2))) = .ok b' := by
  induction nl generalizing b k with
  | nil => cases hfill; rfl
  | cons p r ih =>
    obtain ⟨t, u⟩ := p
    obtain ⟨b2, hs, hfill, h1, h2⟩ := fillLoop_cons hfill
    simp only [strBytesOf_length, strLen] at h1
    have hnt : ¬ t ≥ 2 ^ 31 := Nat.not_le.mpr (htid (t, u) List.mem_cons_self)
    simp only [List.map_cons, namesLoop]
    rw [C16_writeString b u (by omega)]
    simp only [hnt, if_false]
    rw [List.append_assoc]
    show (match arr.setValueAt ⟨b.inner ++ strBytesOf u⟩ (nameRecord t b.len) k with
      | some b2 => namesLoop arr b2 (k + 1) _ | none => _) = _
    rw [hs]
    exact ih b2 (k + 1) (fun p hp => htid p (List.mem_cons_of_mem _ hp)) hfill

theorem namedCount_eq (ts : List NThread) : namedCount ts = (expectedNames ts).length := by
  induction ts with
  | nil => rfl
  | cons t r ih =>
    obtain ⟨tid, nm⟩ := t
    cases nm with
    | none => simpa [namedCount, expectedNames, List.filter_cons, List.filterMap_cons] using ih
    | some us =>
      simp only [namedCount, expectedNames, List.filter_cons, List.filterMap_cons] at ih ⊢
      simpa using ih

theorem C15_layout (b : Buf) (ts : List NThread)
    (htid : ∀ t ∈ ts, t.1 < 2 ^ 31)
    (hsmall : b.len + 4 + 12 * (expectedNames ts).length + strsLen (expectedNames ts) < 2 ^ 32) :
    writeThreadNames b ts = .ok
      (⟨b.inner ++ le 4 (expectedNames ts).length ++
          recsFrom (b.len + 4 + 12 * (expectedNames ts).length) (expectedNames ts) ++ strsOf (expectedNames ts)⟩,
       STREAM_THREAD_NAMES, ⟨4 + 12 * (expectedNames ts).length, b.len⟩) := by
  have hcount := namedCount_eq ts
  have htid' : ∀ p ∈ expectedNames ts, p.1 < 2 ^ 31 := by
    intro p hp
    obtain ⟨t, ht, he⟩ := List.mem_filterMap.mp hp
    obtain ⟨us, _, rfl⟩ := Option.map_eq_some_iff.mp he
    exact htid t ht
  unfold writeThreadNames
  simp only [namesLoop_skip _ _ _ ts]
  rw [hcount]
  generalize expectedNames ts = nl at *
  have f1 : b.len + (le 4 nl.length).length < 2 ^ 32 := by rw [le_length]; omega
  have f2 : (⟨b.inner ++ le 4 nl.length⟩ : Buf).len + nl.length * 12 < 2 ^ 32 := by
    rw [Buf.len_app, le_length]; omega
  have hfill := fillLoop_fresh (fun p (x : Nat × List Nat) => nameRecord x.1 p) (fun x => strBytesOf x.2) 12
    (fun p x => nameRecord_length x.1 p) ⟨(⟨b.inner ++ le 4 nl.length⟩ : Buf).len, nl.length, 12⟩
    (b.inner ++ le 4 nl.length) nl rfl rfl
  rw [funext fun x : Nat × List Nat => strBytesOf_length x.2, ← recsFrom_eq_recsGen] at hfill
  have hspec := namesLoop_sim _ _ _ 0 nl htid' hfill (by
    simp only [Buf.len, List.length_append, le_length, recsFrom_length, strsOf, ← strsOf_length] at hsmall ⊢; omega)
  simp only [Slot.allocWithVal_eq b _ f1, Arr.allocArray_eq _ _ _ f2, Rec.szThreadName, Nat.mul_comm nl.length 12,
    hspec, Slot.location_of_fit f1, Arr.location_of_fit f2]
  rw [if_neg (by rw [le_length]; omega)]
  simp only [List.length_append, le_length, Buf.len, strsOf]

theorem recsFrom_append (rva : Nat) (l1 l2 : List (Nat × List Nat)) :
    recsFrom rva (l1 ++ l2) = recsFrom rva l1 ++ recsFrom (rva + strsLen l1) l2 := by
  induction l1 generalizing rva with
  | nil => simp [recsFrom, strsLen]
  | cons p r ih =>
    obtain ⟨t, u⟩ := p
    simp only [List.cons_append, recsFrom, ih, strsLen, List.map_cons, List.sum_cons, List.append_assoc]
    congr 3; omega

/-- **C15 (each record points at its own name).** In the image produced for a named list
    `l1 ++ (t, u) :: l2`, record number `|l1|` is `(t, rva)` and the bytes at `rva` are the
    length-prefixed UTF-16 string of `u`. -/
theorem C15_entry_points_to_name (pre : Bytes) (l1 l2 : List (Nat × List Nat)) (t : Nat) (u : List Nat) :
    let nl := l1 ++ (t, u) :: l2
    let base := pre.length + 4 + 12 * nl.length
    let image := pre ++ le 4 nl.length ++ recsFrom base nl ++ strsOf nl
    let rva := base + strsLen l1
    (image.drop (pre.length + 4 + 12 * l1.length)).take 12 = nameRecord t rva ∧
    (image.drop rva).take (strLen u) = strBytesOf u := by
  intro nl base image rva
  constructor
  · have h1 : image = (pre ++ le 4 nl.length ++ recsFrom base l1) ++
        (nameRecord t rva ++ (recsFrom (rva + strLen u) l2 ++ strsOf nl)) := by
      simp only [image, nl, recsFrom_append, recsFrom, List.append_assoc, rva]
    rw [h1, List.drop_left' (by simp [recsFrom_length]; omega), List.take_left' (by simp [nameRecord])]
  · have h2 : image = (pre ++ le 4 nl.length ++ recsFrom base nl ++ strsOf l1) ++
        (strBytesOf u ++ strsOf l2) := by
      simp only [image, nl, strsOf, List.flatMap_append, List.flatMap_cons, List.append_assoc]
    rw [h2, List.drop_left' (by
      simp only [List.length_append, le_length, recsFrom_length, strsOf_length, rva, base]),
      List.take_left' (strBytesOf_length u)]

/-- **Counterexample (pre-repair).** threads [unnamed, "a"]: the legacy code leaves the only
    array slot zero and writes the record over the string it just wrote. -/
theorem C15_legacy_counterexample :
    (writeThreadNamesLegacy Buf.empty [(7, none), (9, some [97])]).isOk = true ∧
    (match writeThreadNamesLegacy Buf.empty [(7, none), (9, some [97])] with
     | .ok (b, _, loc) => decodeThreadNames (viewOfList b.inner) loc.rva
     | _ => none) ≠ some [(9, [97])] ∧
    (match writeThreadNames Buf.empty [(7, none), (9, some [97])] with
     | .ok (b, _, loc) => decodeThreadNames (viewOfList b.inner) loc.rva
     | _ => none) = some [(9, [97])] := by decide

/-- the closed-form thread-names stage of the image model is what the operational model of the writer (builder
    operations of src/mem_writer.rs, `writeThreadNames`) produces -/
theorem C15_image_refines (b : Buf) (ts : List NThread) (htid : ∀ t ∈ ts, t.1 < 2 ^ 31)
    (hsmall : b.len + 4 + 12 * (expectedNames ts).length + strsLen (expectedNames ts) < 2 ^ 32) :
    writeThreadNames b ts = .ok (⟨b.inner ++ namesBody b.len (expectedNames ts)⟩, STREAM_THREAD_NAMES,
      ⟨4 + 12 * (expectedNames ts).length, b.len⟩) := by
  rw [C15_layout b ts htid hsmall]
  simp [namesBody, nameRecs_eq_recsFrom, strsOf, strBytesOf, mdStr, List.append_assoc]

/-- **C15 (image).** in the model's image of any content, record `j` of the thread-names stream carries the id of the
    `j`-th named thread and the location of that thread's name string -/
theorem C15_image_name (d : DumpIn) (j : Nat) (tid : Nat) (us : List Nat) (hj : d.names[j]? = some (tid, us)) :
    let pos := (acc16 d).pos
    let q := pos + 4 + 12 * d.names.length + nameOff d.names j
    At (dumpBytes d) pos (le 4 d.names.length) ∧
    At (dumpBytes d) (pos + 4 + 12 * j) (nameRecord tid q) ∧
    At (dumpBytes d) q (mdStr us) := Image_name d j tid us hj

end Mdw
