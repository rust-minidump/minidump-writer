/-
  C09 — The destination receives exactly the image that was built   (src/dir_section.rs)

  For every initial destination content `c0` and start offset (inside the existing content), every
  response script of the destination (failures and short writes at any call) and every history of
  (grow image / fill a not-yet-flushed slot / flush with or without a directory entry):

    C09_new         `DirSection::new` establishes the mirror invariant;
    C09_step        one operation keeps the mirror invariant when it returns Ok, and on Err leaves
                    the bytes before the start and beyond the image untouched and the flushed prefix
                    mirrored except (at most) the one directory slot being written;
    C09_history     the same for whole histories;
    C09_success     after a successful history ending in a flush the destination holds, from the
                    start offset, exactly the image; nothing before / beyond is modified.
-/
import MdwModel.Lemmas.DirSection
import MdwModel.Theorems.C16
namespace Mdw

/-- The mirror invariant between operations. `c0` = destination content before the dump. -/
structure C09Inv (c0 : Bytes) (s : DS) : Prop where
  pos : s.dest.pos = s.dir.startOff + s.dir.lastWritten
  pos_le : s.dest.pos ≤ s.dest.content.length
  before : ∀ i, i < s.dir.startOff → s.dest.content[i]? = c0[i]?
  mirror : ∀ i, i < s.dir.lastWritten → s.dest.content[s.dir.startOff + i]? = s.buf.inner[i]?
  beyond : ∀ j, s.dir.startOff + s.dir.lastWritten ≤ j → s.dest.content[j]? = c0[j]?
  lw_le : s.dir.lastWritten ≤ s.buf.len
  sec_in : s.dir.sec.position + 12 * s.dir.sec.arraySize ≤ s.buf.len
  sec_sz : s.dir.sec.sz = 12
  small : s.buf.len < 2 ^ 32

/-- What still holds after an operation failed with an I/O error (the dump aborts there). -/
structure C09FailPost (c0 : Bytes) (s s' : DS) : Prop where
  start_eq : s'.dir.startOff = s.dir.startOff
  before : ∀ i, i < s.dir.startOff → s'.dest.content[i]? = c0[i]?
  beyond : ∀ j, s.dir.startOff + s'.buf.len ≤ j → s'.dest.content[j]? = c0[j]?
  /-- the prefix flushed before the failing operation is still mirrored, except the directory
      slot that operation was writing -/
  mirror : ∀ i, i < s.dir.lastWritten →
    (i < s.dir.sec.position + 12 * s.dir.currIdx ∨ s.dir.sec.position + 12 * s.dir.currIdx + 12 ≤ i) →
    s'.dest.content[s.dir.startOff + i]? = s'.buf.inner[i]?

/-- Acceptable caller operations: growth keeps the image below 4 GiB, a later fill touches only
    bytes not yet flushed, a directory entry is 12 bytes and a free slot exists. -/
def C09OpOk (s : DS) : DOp → Prop
  | .grow bs => s.buf.len + bs.length < 2 ^ 32
  | .patch off v => s.dir.lastWritten ≤ off ∧ off + v.length ≤ s.buf.len
  | .flush none => True
  | .flush (some e) => e.length = 12 ∧ s.dir.currIdx < s.dir.sec.arraySize

/-- The mirror invariant in one equation: the destination is what it was before the dump with the flushed prefix of
    the image written over it at the start offset. -/
theorem C09Inv.content {c0 : Bytes} {s : DS} (h : C09Inv c0 s) :
    s.dir.startOff ≤ c0.length ∧
    s.dest.content = splice c0 s.dir.startOff (s.buf.inner.take s.dir.lastWritten) := by
  obtain ⟨hpos, hposle, hbefore, hmirror, hbeyond, hlw, _, _, _⟩ := h
  have hS : s.dir.startOff ≤ c0.length := by
    apply Nat.le_of_not_lt
    intro hlt
    have := hbefore c0.length hlt
    rw [List.getElem?_eq_none (Nat.le_refl _), List.getElem?_eq_none_iff] at this
    omega
  refine ⟨hS, List.ext_getElem? fun j => ?_⟩
  have hL : (s.buf.inner.take s.dir.lastWritten).length = s.dir.lastWritten := List.length_take_of_le hlw
  by_cases h1 : j < s.dir.startOff
  · rw [splice_get_outside _ _ _ _ hS (.inl h1)]; exact hbefore j h1
  by_cases h2 : j < s.dir.startOff + s.dir.lastWritten
  · obtain ⟨i, rfl⟩ := Nat.exists_eq_add_of_le (Nat.le_of_not_lt h1)
    rw [splice_get_inside _ _ _ _ hS (by omega), hmirror i (by omega), List.getElem?_take_of_lt (by omega)]
  · rw [splice_get_outside _ _ _ _ hS (.inr (by omega))]; exact hbeyond j (by omega)

theorem C09Inv.of_content {c0 : Bytes} {s : DS} (hS : s.dir.startOff ≤ c0.length)
    (hc : s.dest.content = splice c0 s.dir.startOff (s.buf.inner.take s.dir.lastWritten))
    (hpos : s.dest.pos = s.dir.startOff + s.dir.lastWritten) (hlw : s.dir.lastWritten ≤ s.buf.len)
    (hsec : s.dir.sec.position + 12 * s.dir.sec.arraySize ≤ s.buf.len) (hsz : s.dir.sec.sz = 12)
    (hsmall : s.buf.len < 2 ^ 32) : C09Inv c0 s := by
  have hL : (s.buf.inner.take s.dir.lastWritten).length = s.dir.lastWritten := List.length_take_of_le hlw
  refine ⟨hpos, ?_, ?_, ?_, ?_, hlw, hsec, hsz, hsmall⟩
  · have := le_splice_length c0 (s.buf.inner.take s.dir.lastWritten) _ hS
    rw [hpos, hc]; omega
  · intro i hi
    rw [hc, splice_get_outside _ _ _ _ hS (.inl hi)]
  · intro i hi
    rw [hc, splice_get_inside _ _ _ _ hS (Nat.lt_of_lt_of_eq hi hL.symm), List.getElem?_take_of_lt hi]
  · intro j hj
    rw [hc, splice_get_outside _ _ _ _ hS (.inr (by omega))]

theorem C09Inv.of_buf {c0 : Bytes} {s : DS} (h : C09Inv c0 s) (b : Buf) (hle : s.buf.len ≤ b.len) (hsmall : b.len < 2 ^ 32)
    (hpre : ∀ i, i < s.dir.lastWritten → b.inner[i]? = s.buf.inner[i]?) : C09Inv c0 ⟨b, s.dest, s.dir⟩ :=
  ⟨h.pos, h.pos_le, h.before, fun i hi => (h.mirror i hi).trans (hpre i hi).symm, h.beyond, Nat.le_trans h.lw_le hle,
    Nat.le_trans h.sec_in hle, h.sec_sz, hsmall⟩

theorem C09FailPost.of_content {c0 : Bytes} {s s' : DS} (w : Bytes) (hS : s.dir.startOff ≤ c0.length)
    (hst : s'.dir.startOff = s.dir.startOff) (hc : s'.dest.content = splice c0 s.dir.startOff w)
    (hw : w.length ≤ s'.buf.len) (hL : s.dir.lastWritten ≤ w.length)
    (hm : ∀ i, i < s.dir.lastWritten →
      (i < s.dir.sec.position + 12 * s.dir.currIdx ∨ s.dir.sec.position + 12 * s.dir.currIdx + 12 ≤ i) →
      w[i]? = s'.buf.inner[i]?) : C09FailPost c0 s s' := by
  refine ⟨hst, ?_, ?_, ?_⟩
  · intro i hi
    rw [hc, splice_get_outside _ _ _ _ hS (.inl hi)]
  · intro j hj
    rw [hc, splice_get_outside _ _ _ _ hS (.inr (by omega))]
  · intro i hi hslot
    rw [hc, splice_get_inside _ _ _ _ hS (Nat.lt_of_lt_of_le hi hL)]
    exact hm i hi hslot

theorem C09Inv.slot {c0 : Bytes} {s : DS} (hinv : C09Inv c0 s) {e : Bytes} (he : e.length = 12)
    (hidx : s.dir.currIdx < s.dir.sec.arraySize) {P : Nat} (hP : s.dir.sec.position + 12 * s.dir.currIdx = P) :
    P + 12 ≤ s.buf.inner.length ∧
    s.dir.sec.setValueAt s.buf e s.dir.currIdx = some ⟨splice s.buf.inner P e⟩ ∧
    s.dir.sec.locationOfIndex s.dir.currIdx = some ⟨12, P⟩ ∧
    (splice s.buf.inner P e).length = s.buf.inner.length ∧
    ((splice s.buf.inner P e).drop P).take 12 = e := by
  obtain ⟨-, -, -, -, -, -, hsec, hsz, hsmall⟩ := hinv
  have hlen : s.buf.len = s.buf.inner.length := rfl
  have hPin : P + e.length ≤ s.buf.inner.length := by omega
  refine ⟨by omega, ?_, ?_, splice_length _ _ _ hPin, ?_⟩
  · rw [Arr.setValueAt, hsz, hP]; exact Buf.writeAt_splice _ _ _ hPin
  · have := C16_locationOfIndex s.dir.sec s.dir.currIdx (by rw [hsz]; omega)
    rw [hsz, Nat.mul_comm, hP] at this; exact this
  · rw [← he]; exact splice_drop_take _ _ _ (by omega)

theorem dumpDirEntry_spec (sc : Script) (c0 : Bytes) (s : DS) (e : Bytes)
    (hinv : C09Inv c0 s) (hfl : s.dir.lastWritten = s.buf.len)
    (he : e.length = 12) (hidx : s.dir.currIdx < s.dir.sec.arraySize) :
    ∃ s' ok, dumpDirEntry sc s e = some (s', ok) ∧
      (ok = true → C09Inv c0 s') ∧ (ok = false → C09FailPost c0 s s') := by
  obtain ⟨hS, hc⟩ := hinv.content
  have hlen : s.buf.len = s.buf.inner.length := rfl
  rw [hfl, hlen, List.take_length] at hc
  generalize hP' : s.dir.sec.position + 12 * s.dir.currIdx = P
  obtain ⟨hPin, hset, hloc, hb1, hslice⟩ := hinv.slot he hidx hP'
  obtain ⟨d', i, ok, k, hrun, hk, hc', hok⟩ := dumpDirEntry_dest sc s e _ P 12 hset hloc (by omega)
    (by rw [hc]; have := le_splice_length c0 s.buf.inner _ hS; omega)
  -- the destination is the old content with the image, a prefix of the entry already in its slot, written over it
  rw [hslice, hc, splice_splice _ _ _ _ _ hS (by simp only [List.length_take]; omega)] at hc'
  have hwl : (splice s.buf.inner P (e.take k)).length = s.buf.inner.length :=
    splice_length _ _ _ (by simp only [List.length_take]; omega)
  refine ⟨_, ok, hrun, fun h => ?_, fun _ => ?_⟩
  · obtain ⟨rfl, hp, rfl⟩ := hok h
    rw [← he, List.take_length] at hc'
    have htake : (splice s.buf.inner P e).take s.dir.lastWritten = splice s.buf.inner P e := by
      rw [hfl, hlen, ← hb1, List.take_length]
    have hb : (⟨splice s.buf.inner P e⟩ : Buf).len = s.buf.len := hb1
    exact C09Inv.of_content hS (by rw [← htake] at hc'; exact hc') (hp.trans hinv.pos)
      (hb ▸ hinv.lw_le) (hb ▸ hinv.sec_in) hinv.sec_sz (hb ▸ hinv.small)
  · refine C09FailPost.of_content _ hS rfl hc' (Nat.le_of_eq (hwl.trans hb1.symm)) (Nat.le_of_eq (hfl.trans hwl.symm)) ?_
    intro j _ hslot
    have hk' : (e.take k).length ≤ 12 := by simp only [List.length_take]; omega
    rw [hP'] at hslot
    show (splice s.buf.inner P (e.take k))[j]? = (splice s.buf.inner P e)[j]?
    rw [splice_get_outside _ _ _ _ (by omega) (by omega), splice_get_outside _ _ _ _ (by omega) (by omega)]

/-- **C09 (one operation).** -/
theorem C09_step (sc : Script) (c0 : Bytes) (s : DS) (op : DOp)
    (hinv : C09Inv c0 s) (hok : C09OpOk s op) :
    ∃ s' ok, dstep sc s op = some (s', ok) ∧
      (ok = true → C09Inv c0 s') ∧ (ok = false → C09FailPost c0 s s') := by
  have hlen : s.buf.len = s.buf.inner.length := rfl
  have hlw : s.dir.lastWritten ≤ s.buf.inner.length := hinv.lw_le
  cases op with
  | grow bs =>
    have hb : (s.buf.writeAll bs).len = s.buf.len + bs.length := Buf.len_app s.buf bs
    exact ⟨_, true, rfl, fun _ => hinv.of_buf _ (hb ▸ Nat.le_add_right _ _) (hb ▸ hok)
      fun i hi => List.getElem?_append_left (Nat.lt_of_lt_of_le hi hlw), Bool.noConfusion⟩
  | patch off v =>
    obtain ⟨h1, h2⟩ := hok
    have hb : (⟨splice s.buf.inner off v⟩ : Buf).len = s.buf.len := splice_length s.buf.inner v off h2
    refine ⟨_, true, ?_, fun _ => hinv.of_buf _ (Nat.le_of_eq hb.symm) (hb ▸ hinv.small)
      fun i hi => splice_get_outside _ _ _ _ (by omega) (.inl (Nat.lt_of_lt_of_le hi h1)), Bool.noConfusion⟩
    simp only [dstep, Buf.writeAt_splice s.buf off v h2, Option.map_some]
  | flush e =>
    -- the destination gets a prefix of the pending bytes behind the flushed prefix
    obtain ⟨hS, hc⟩ := hinv.content
    obtain ⟨k, hk, hc1, hp1, hk1⟩ := Dest.writeAll_splice sc s.dest (s.buf.inner.drop s.dir.lastWritten) hinv.pos_le
    rw [hc, hinv.pos, splice_append _ _ _ _ hS (List.length_take_of_le hlw)] at hc1
    rw [List.length_drop] at hk
    simp only [dstep, writeToFile_eq sc s e hinv.lw_le]
    cases hr : (s.dest.writeAll sc (s.buf.inner.drop s.dir.lastWritten)).2 with
    | false =>
      rw [if_neg Bool.false_ne_true]
      refine ⟨_, false, rfl, Bool.noConfusion, fun _ => ?_⟩
      refine .of_content _ hS rfl hc1 ?_ ?_ ?_
      · simp only [Buf.len, List.length_append, List.length_take, List.length_drop]; omega
      · simp only [List.length_append, List.length_take]; omega
      · intro i hi _
        rw [List.getElem?_append_left (by rw [List.length_take]; omega), List.getElem?_take_of_lt hi]
    | true =>
      rw [if_pos rfl]
      rw [hk1 hr, List.take_length, List.take_append_drop] at hc1
      rw [hk1 hr, List.length_drop] at hp1
      have hinv1 : C09Inv c0 ⟨s.buf, (s.dest.writeAll sc (s.buf.inner.drop s.dir.lastWritten)).1,
          { s.dir with lastWritten := s.buf.len }⟩ :=
        .of_content hS (by rw [hc1]; exact congrArg _ (List.take_length).symm) (by rw [hp1, hinv.pos]; simp only; omega)
          (Nat.le_refl _) hinv.sec_in hinv.sec_sz hinv.small
      cases e with
      | none => exact ⟨_, true, rfl, fun _ => hinv1, Bool.noConfusion⟩
      | some e =>
        obtain ⟨he, hidx⟩ := hok
        obtain ⟨s', ok, hd, h1, h2⟩ := dumpDirEntry_spec sc c0 _ e hinv1 rfl he hidx
        refine ⟨s', ok, hd, h1, fun hf => ?_⟩
        obtain ⟨f1, f2, f3, f4⟩ := h2 hf
        exact ⟨f1, f2, f3, fun i hi hslot => f4 i (Nat.lt_of_lt_of_le hi hinv.lw_le) hslot⟩

/-- validity of a history, op by op, w.r.t. the states the model reaches -/
def C09HistOk (sc : Script) : DS → List DOp → Prop
  | _, [] => True
  | s, op :: ops => C09OpOk s op ∧ ∀ s', dstep sc s op = some (s', true) → C09HistOk sc s' ops

/-- **C09 (histories).** From any state satisfying the invariant, any valid history under any
    destination script never panics; if it completes, the invariant holds at the end; if an
    operation fails, the state right before that operation satisfied the invariant and the
    failure post-condition holds. -/
theorem C09_history (sc : Script) (c0 : Bytes) (s : DS) (ops : List DOp)
    (hinv : C09Inv c0 s) (hok : C09HistOk sc s ops) :
    ∃ s' ok, drun sc s ops = some (s', ok) ∧
      (ok = true → C09Inv c0 s') ∧
      (ok = false → ∃ s0, C09Inv c0 s0 ∧ C09FailPost c0 s0 s') := by
  induction ops generalizing s with
  | nil => exact ⟨s, true, rfl, fun _ => hinv, by simp⟩
  | cons op ops ih =>
    obtain ⟨ho, hrest⟩ := hok
    obtain ⟨s1, ok, hs, h1, h2⟩ := C09_step sc c0 s op hinv ho
    cases ok with
    | false =>
      exact ⟨s1, false, by simp [drun, hs], by simp, fun _ => ⟨s, hinv, h2 rfl⟩⟩
    | true =>
      obtain ⟨s2, ok2, hr, g1, g2⟩ := ih s1 (h1 rfl) (hrest s1 hs)
      exact ⟨s2, ok2, by simp [drun, hs, hr], g1, g2⟩

/-- `DirSection::new` establishes the invariant (start offset inside the existing content). -/
theorem C09_new (sc : Script) (b : Buf) (n : Nat) (d : Dest)
    (hd : d.pos ≤ d.content.length) (hb : b.len + n * 12 < 2 ^ 32) :
    ((DirSec.new sc b n d).2 = true → C09Inv d.content (DirSec.new sc b n d).1) ∧
    (DirSec.new sc b n d).1.dest.content = d.content := by
  unfold DirSec.new
  simp only [Dest.streamPosition_eq, Arr.allocArray_eq b n 12 hb]
  by_cases hf : sc d.calls = .fail
  · simp [hf]
  · simp only [hf, if_false]
    refine ⟨fun _ => ?_, trivial⟩
    refine ⟨rfl, hd, fun _ _ => rfl, fun i hi => absurd hi (Nat.not_lt_zero _), fun _ _ => rfl, Nat.zero_le _, ?_, rfl, ?_⟩
    · show b.len + 12 * n ≤ (⟨b.inner ++ zeros (n * 12)⟩ : Buf).len
      rw [Buf.len_app, zeros_length]; omega
    · show (⟨b.inner ++ zeros (n * 12)⟩ : Buf).len < 2 ^ 32
      rw [Buf.len_app, zeros_length]; exact hb

/-- **C09 (success).** After a successful history that ends with a flush, the destination, read
    from the start offset, is exactly the image; no byte before the start or beyond the end of
    the image differs from the original content. -/
theorem C09_success (c0 : Bytes) (s : DS) (hinv : C09Inv c0 s) (hfl : s.dir.lastWritten = s.buf.len) :
    (s.dest.content.drop s.dir.startOff).take s.buf.len = s.buf.inner ∧
    s.dest.content.take s.dir.startOff = c0.take s.dir.startOff ∧
    (∀ j, s.dir.startOff + s.buf.len ≤ j → s.dest.content[j]? = c0[j]?) := by
  obtain ⟨hS, hc⟩ := hinv.content
  rw [hfl, show s.buf.len = s.buf.inner.length from rfl, List.take_length] at hc
  refine ⟨?_, ?_, fun j hj => hinv.beyond j (by omega)⟩
  · rw [hc]; exact splice_drop_take _ _ _ hS
  · rw [hc, splice_take_of_le _ _ _ _ hS (Nat.le_refl _)]

/-- Non-vacuity: the invariant is established by `new` on a concrete destination and survives a
    concrete history with a short write. -/
example :
    let sc : Script := fun k => if k = 2 then .short 1 else .ok
    let r := DirSec.new sc ⟨[1,2,3]⟩ 1 ⟨[9,9,9,9,9], 2, 0⟩
    (drun sc r.1 [.flush none, .grow [7,7], .flush (some [1,1,1,1,2,2,2,2,3,3,3,3])]).map
      (fun x => (x.1.dest.content, x.2))
      = some ([9,9, 1,2,3, 1,1,1,1,2,2,2,2,3,3,3,3, 7,7], true) := by decide

end Mdw
