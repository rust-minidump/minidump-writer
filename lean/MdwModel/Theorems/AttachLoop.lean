/- The wait-and-reinject loop of `suspend_thread`: however many signals are reported before the attach's own SIGSTOP,
   each is passed on with PTRACE_CONT, in order, and only then is the thread taken for stopped (`stopSeen`, followed by
   the register read). The model's attach sequence takes a *list* of signals of any length; that the code's loop is
   unbounded too — left through SIGSTOP or an error, never through a count — is a regenerated source fact
   (`Src.attachLoopUnbounded`; false under the seed C03_r19, which bounds it to two rounds). -/
import MdwModel.Lemmas.Ptrace
import MdwModel.Generated.Source
namespace Mdw

theorem AttachLoop_source_agrees : Src.attachLoopUnbounded = none ∨ Src.attachLoopUnbounded = some true := by decide

/-- for every number of reported signals: the actions of a successful attach are the attach, one (seen, cont) pair per
    signal in order, then the stop and the register read — the thread is kept -/
theorem AttachLoop_all_signals (t : Nat) (sigs : List Nat) :
    suspendThread t (.stops sigs) = (.attach t :: reinject t sigs ++ [.stopSeen t, .getRegs t], true) ∧
    (reinject t sigs).length = 2 * sigs.length := by
  refine ⟨rfl, ?_⟩
  induction sigs with
  | nil => rfl
  | cons a r ih => rw [reinject_cons, List.length_cons, List.length_cons, ih, List.length_cons]; omega

/-- … and every reported signal is passed on at a position before the stop -/
theorem AttachLoop_stop_after_signals (t : Nat) (sigs : List Nat) (s : Nat) (hs : s ∈ sigs) :
    ∃ i j : Nat, (suspendThread t (.stops sigs)).1[i]? = some (Action.cont t s) ∧
      (suspendThread t (.stops sigs)).1[j]? = some (Action.stopSeen t) ∧ i < j := by
  have hmem : Action.cont t s ∈ reinject t sigs := mem_reinject.2 ⟨s, hs, .inr rfl⟩
  obtain ⟨i, hi, hget⟩ := List.getElem_of_mem hmem
  refine ⟨i + 1, (reinject t sigs).length + 1, ?_, ?_, Nat.succ_lt_succ hi⟩
  · simp only [suspendThread, List.cons_append, List.getElem?_cons_succ]
    rw [List.getElem?_append_left hi, List.getElem?_eq_getElem hi, hget]
  · simp only [suspendThread, List.cons_append, List.getElem?_cons_succ]
    rw [List.getElem?_append_right (Nat.le_refl _)]
    simp

/-- three signals queued, all three passed on before the stop -/
example : (suspendThread 7 (.stops [10, 12, 14])).1 =
    [.attach 7, .sigSeen 7 10, .cont 7 10, .sigSeen 7 12, .cont 7 12, .sigSeen 7 14, .cont 7 14, .stopSeen 7, .getRegs 7] := by
  decide

end Mdw
