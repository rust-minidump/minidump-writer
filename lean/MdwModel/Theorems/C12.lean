/-
  C12 — Stack sanitization lets only pointers and small integers survive
        (PtraceDumper::sanitize_stack_copy, after the two repairs)

  For every mapping list satisfying `WfMaps` (system range inside the hull, no 64-bit overflow,
  system ranges pairwise disjoint — what `C13_layout` shows of `aggregate`'s output for lines below 2 ^ 64), every
  stack content, stack pointer, offset and length (including lengths shorter than the offset):

    C12_total        no panic
    C12_structure    output = zeros (below SP) ++ classified full words ++ zeros (partial tail)
    C12_len_kept / C12_zero_regions
    C12_words        every full word at/after the aligned offset is kept if it qualifies
                     (|w| ≤ 4096 signed, inside the thread's stack mapping, inside an executable
                     mapping) and is the sentinel otherwise        — soundness and completeness
    C12_legacy_negative_counterexample / C12_legacy_short_copy_counterexample   the two defects of the
                     unrepaired code
-/
import MdwModel.Lemmas.Stack
import MdwModel.Lemmas.At
namespace Mdw

structure WfMaps (ms : List Mapping) : Prop where
  hull : ∀ m ∈ ms, m.start ≤ m.sysStart ∧ m.sysEnd ≤ m.start + m.size ∧ m.start + m.size < 2 ^ 64
  disjoint : ∀ a ∈ ms, ∀ b ∈ ms, ∀ w, a.containsAddress w = true → b.containsAddress w = true → a = b

/-- a word may survive: small signed integer, pointer into the thread's own stack mapping, or
    pointer into an executable mapping -/
def qualifies (ms : List Mapping) (stackMap : Option Mapping) (w : Nat) : Bool :=
  smallInt w || optContains stackMap w || ms.any (fun m => m.isExec && m.containsAddress w)

def CacheOk (ms : List Mapping) : Option Mapping → Prop
  | none => True
  | some lh => lh ∈ ms ∧ lh.isExec = true

theorem couldHit_of_exec (ms : List Mapping) (hw : WfMaps ms) (m : Mapping) (hm : m ∈ ms)
    (hx : m.isExec = true) (w : Nat) (hc : m.containsAddress w = true) :
    couldHit ms (w / 2 ^ 21) = true := by
  obtain ⟨h1, h2, _⟩ := hw.hull m hm
  simp only [Mapping.containsAddress, Bool.and_eq_true, decide_eq_true_eq] at hc
  refine List.any_eq_true.mpr ⟨m, hm, ?_⟩
  simp only [hx, Bool.true_and]
  exact inRangeMod_of_between _ _ _ (Nat.div_le_div_right (by omega)) (Nat.div_le_div_right (by omega))

/-- mappings are disjoint, so the first mapping that contains `w` is the only one -/
theorem findMappingNoBias_exec {ms : List Mapping} (hw : WfMaps ms) (w : Nat) :
    ms.any (fun m => m.isExec && m.containsAddress w) = true ↔
      ∃ hit, findMappingNoBias ms w = some hit ∧ hit.isExec = true := by
  simp only [List.any_eq_true, Bool.and_eq_true]
  constructor
  · rintro ⟨m, hm, hx, hc⟩
    cases hf : findMappingNoBias ms w with
    | none => rw [findMappingNoBias_none hf m hm] at hc; cases hc
    | some hit =>
      obtain ⟨hmem, hhit⟩ := findMappingNoBias_some hf
      exact ⟨hit, rfl, hw.disjoint hit hmem m hm w hhit hc ▸ hx⟩
  · rintro ⟨hit, hf, hx⟩
    exact ⟨hit, (findMappingNoBias_some hf).1, hx, (findMappingNoBias_some hf).2⟩

theorem classifyWord_spec (ms : List Mapping) (hw : WfMaps ms) (sm lh : Option Mapping)
    (hc : CacheOk ms lh) (w : Nat) :
    (classifyWord ms sm lh w).1 = qualifies ms sm w ∧ CacheOk ms (classifyWord ms sm lh w).2 := by
  unfold classifyWord qualifies
  cases h1 : smallInt w
  case true => exact ⟨rfl, hc⟩
  cases h2 : optContains sm w
  case true => exact ⟨rfl, hc⟩
  simp only [Bool.false_eq_true, if_false, Bool.false_or]
  cases h3 : optContains lh w
  case true =>
    -- the cached mapping is one of `ms` and executable
    refine ⟨?_, hc⟩
    cases lh with
    | none => cases h3
    | some l => exact (List.any_eq_true.mpr ⟨l, hc.1, by simp only [hc.2, Bool.true_and]; exact h3⟩).symm
  simp only [Bool.false_eq_true, if_false]
  cases hany : ms.any (fun m => m.isExec && m.containsAddress w)
  case true =>
    -- some executable mapping contains w: the pre-filter bit is set and the lookup finds it
    obtain ⟨hit, hf, hx⟩ := (findMappingNoBias_exec hw w).mp hany
    obtain ⟨hmem, hhit⟩ := findMappingNoBias_some hf
    simp only [couldHit_of_exec ms hw hit hmem hx w hhit, hf, hx, if_true]
    exact ⟨trivial, hmem, hx⟩
  case false =>
    -- none does: whatever the pre-filter says, the lookup finds nothing executable
    split
    · split
      · rename_i hit hf
        cases hx : hit.isExec
        · exact ⟨rfl, hc⟩
        · rw [(findMappingNoBias_exec hw w).mpr ⟨hit, hf, hx⟩] at hany
          cases hany
      · exact ⟨rfl, hc⟩
    · exact ⟨rfl, hc⟩

theorem sanitizeWords_spec (ms : List Mapping) (hw : WfMaps ms) (sm lh : Option Mapping)
    (hc : CacheOk ms lh) (ws : List Nat) :
    sanitizeWords ms sm lh ws = ws.map (fun w => if qualifies ms sm w then w else DEFACED) := by
  induction ws generalizing lh with
  | nil => rfl
  | cons w ws ih =>
    obtain ⟨h1, h2⟩ := classifyWord_spec ms hw sm lh hc w
    simp only [sanitizeWords, List.map_cons]
    rw [h1, ih _ h2]

/-- the conditions under which the Rust code does not panic on arithmetic -/
def C12Pre (ms : List Mapping) (spOff : Nat) : Prop := WfMaps ms ∧ spOff + 7 < 2 ^ 64

/-- **C12 (structure, totality).** -/
theorem C12_structure (ms : List Mapping) (stack : Bytes) (sp spOff : Nat) (h : C12Pre ms spOff) :
    let off := min (align8 spOff) stack.length
    let body := stack.drop off
    let ws := wordsOf (body.length / 8 + 1) body
    sanitize ms stack sp spOff = .ok (zeros off ++
      (ws.map (fun w => if qualifies ms (findMappingNoBias ms sp) w then w else DEFACED)).flatMap (le 8) ++
      zeros (body.length % 8)) := by
  obtain ⟨hw, hs⟩ := h
  have h1 : ms.any (fun m => m.isExec && decide (m.start + m.size ≥ 2 ^ 64)) = false :=
    List.any_eq_false.mpr fun m hm h =>
      Nat.not_le.mpr (hw.hull m hm).2.2 (of_decide_eq_true (Bool.and_eq_true_iff.mp h).2)
  have h2 : ¬ spOff + 7 ≥ 2 ^ 64 := Nat.not_le.mpr hs
  simp only [sanitize, h1, Bool.false_eq_true, if_false, h2]
  rw [sanitizeWords_spec ms hw _ none trivial]

theorem C12_total (ms : List Mapping) (stack : Bytes) (sp spOff : Nat) (h : C12Pre ms spOff) :
    (sanitize ms stack sp spOff).isOk = true :=
  congrArg Outcome.isOk (C12_structure ms stack sp spOff h)

theorem sanitize_ok {ms : List Mapping} {stack out : Bytes} {sp spOff : Nat} (h : C12Pre ms spOff)
    (ho : sanitize ms stack sp spOff = .ok out) :
    out.length = stack.length ∧
    (∀ i, i < min (align8 spOff) stack.length → out[i]? = some 0) ∧
    (∀ i, min (align8 spOff) stack.length +
          8 * ((stack.length - min (align8 spOff) stack.length) / 8) ≤ i → i < stack.length →
        out[i]? = some 0) := by
  have hs := C12_structure ms stack sp spOff h
  simp only at hs
  obtain rfl := Outcome.ok.inj (hs.symm.trans ho)
  have hoff := Nat.min_le_right (align8 spOff) stack.length
  generalize min (align8 spOff) stack.length = off at hoff ⊢
  generalize hws : List.map _ (wordsOf _ (stack.drop off)) = ws
  have hq : ws.length = (stack.length - off) / 8 := by
    rw [← hws, List.length_map, wordsOf_length _ _ (Nat.lt_succ_self _), List.length_drop]
  have hmid : (zeros off ++ ws.flatMap (le 8)).length = off + 8 * ((stack.length - off) / 8) := by
    rw [List.length_append, zeros_length, flatMap_const_length (le 8) 8 (le_length 8), hq]
  have hdm := Nat.div_add_mod (stack.length - off) 8
  rw [List.length_drop]
  refine ⟨?_, fun i hi => ?_, fun i hi1 hi2 => ?_⟩
  · rw [List.length_append, hmid, zeros_length]
    omega
  · rw [List.append_assoc, List.getElem?_append_left (by rwa [zeros_length]), zeros, List.getElem?_replicate,
      if_pos hi]
  · rw [List.getElem?_append_right (by rwa [hmid]), hmid, zeros, List.getElem?_replicate, if_pos (by omega)]

/-- **C12 (length kept).** -/
theorem C12_len_kept (ms : List Mapping) (stack : Bytes) (sp spOff : Nat) (h : C12Pre ms spOff) :
    ∃ out, sanitize ms stack sp spOff = .ok out ∧ out.length = stack.length :=
  ⟨_, C12_structure ms stack sp spOff h, (sanitize_ok h (C12_structure ms stack sp spOff h)).1⟩

/-- **C12 (zero below SP and in the partial tail).** -/
theorem C12_zero_regions (ms : List Mapping) (stack : Bytes) (sp spOff : Nat) (h : C12Pre ms spOff) :
    ∃ out, sanitize ms stack sp spOff = .ok out ∧
      (∀ i, i < min (align8 spOff) stack.length → out[i]? = some 0) ∧
      (∀ i, min (align8 spOff) stack.length +
            8 * ((stack.length - min (align8 spOff) stack.length) / 8) ≤ i → i < stack.length →
          out[i]? = some 0) :=
  ⟨_, C12_structure ms stack sp spOff h, (sanitize_ok h (C12_structure ms stack sp spOff h)).2⟩

/-- **C12 (words: sound and complete).** Full word `k` at/after the aligned offset: the output
    word is the input word if that qualifies, and the sentinel otherwise. -/
theorem C12_words (ms : List Mapping) (stack : Bytes) (sp spOff : Nat) (h : C12Pre ms spOff)
    (k : Nat) (hk : k < (stack.length - min (align8 spOff) stack.length) / 8) :
    let off := min (align8 spOff) stack.length
    let w := unle ((stack.drop (off + 8 * k)).take 8)
    ∃ out, sanitize ms stack sp spOff = .ok out ∧
      (out.drop (off + 8 * k)).take 8 =
        le 8 (if qualifies ms (findMappingNoBias ms sp) w then w else DEFACED) := by
  have hs := C12_structure ms stack sp spOff h
  simp only [wordsOf_drop] at hs ⊢
  refine ⟨_, hs, ?_⟩
  generalize min (align8 spOff) stack.length = off at *
  -- word k of the output is record k of the middle part, behind the zeroed prefix
  have hW := At.flatMap_const (le 8) 8 (le_length 8)
    (((List.range ((stack.length - off) / 8)).map (fun k => unle ((stack.drop (off + 8 * k)).take 8))).map
      (fun w => if qualifies ms (findMappingNoBias ms sp) w then w else DEFACED)) k _
    (by rw [List.getElem?_map, List.getElem?_map, List.getElem?_range hk]; rfl)
  have hat := ((hW.skip (zeros off) off (zeros_length off)).append_right (zeros ((stack.drop off).length % 8))).slice
  rwa [le_length] at hat

/-- the small-integer test before the repair: unsigned `addr <= 4096` conjoined with the signed
    lower bound -/
def smallIntLegacy (w : Nat) : Bool := w ≤ 4096

/-- **Counterexample 1 (pre-repair).** −5 (as a 64-bit word) is a small integer by the
    property's definition but not by the legacy test, hence it was defaced. -/
theorem C12_legacy_negative_counterexample :
    smallInt (2 ^ 64 - 5) = true ∧ smallIntLegacy (2 ^ 64 - 5) = false := by decide

/-- **Counterexample 2 (pre-repair).** with `sp_offset = 17` and an 8-byte copy the unclamped
    zeroing range `0..24` exceeds the slice: the legacy code panicked. -/
theorem C12_legacy_short_copy_counterexample : align8 17 > ([0,0,0,0,0,0,0,0] : Bytes).length := by
  decide

/-- An evaluated instance: stack mapping + one executable mapping;
    words: −5 (kept), pointer into the executable mapping (kept), pointer into a non-executable
    area (defaced), and a 3-byte partial tail (zeroed); first 8 bytes below SP zeroed. -/
example :
    let exe : Mapping := ⟨0x400000, 0x2000, 0x400000, 0x402000, 0, 5 + 16, none⟩
    let stk : Mapping := ⟨0x7ff000, 0x1000, 0x7ff000, 0x800000, 0, 3 + 16, none⟩
    let inp : Bytes := le 8 0x1234 ++ le 8 (2 ^ 64 - 5) ++ le 8 0x400010 ++ le 8 0x500000 ++ [1, 2, 3]
    sanitize [exe, stk] inp 0x7ff808 8 =
      .ok (zeros 8 ++ le 8 (2 ^ 64 - 5) ++ le 8 0x400010 ++ le 8 DEFACED ++ [0, 0, 0]) := by decide

end Mdw
