/-
  The whole of `generate_dump` as builder operations — reserve the header and the directory, fill the header, then
  the eighteen writers in the order of the code, each followed by `DirSection::write_to_file(Some(entry))`, i.e.
  `set_value_at(entry, curr_idx)` on the directory array — and the proof that it produces exactly the closed-form
  image `dumpBytes d` of Model/Dump.lean:

      Compose_dump :  opDump d = some (dumpBytes d)          (image below 4 GiB, at least 18 directory slots, ids of
                                                              the named threads below 2^31)

  So the reader-level theorems of Theorems/Image.lean are theorems about what the operational model of the writers
  (whose builder operations are validated against the real `Buffer` / `MemoryWriter` / `MemoryArrayWriter` by the
  C16 correspondence) leaves in the buffer.

  The proof follows the pipeline: the state after `k` writers is `stOf d arr (accFrom a0 d k)`, and one lemma per kind
  of stage (`stage_to`, `rawStage_to`, `softStage_to`) takes it to the state after the next, given the refinement
  theorem of the writer concerned.  It is carried out for any start accumulator `a0` (`Compose_from`): the repaired
  `dump()` starts from `acc0 d`, a reused writer without the repair from the memory blocks left behind.
-/
import MdwModel.Theorems.RefineMore
import MdwModel.Theorems.C15
namespace Mdw

/-- `DirSection`: the directory array and the index of the next slot -/
structure DirSt where
  arr : Arr
  idx : Nat

/-- `write_to_file(Some(entry))` as far as the image goes: `set_value_at(entry, curr_idx)`, `curr_idx += 1` -/
def publishEnt (ds : DirSt) (b : Buf) (e : DirEnt) : Option (Buf × DirSt) :=
  (ds.arr.setValueAt b (serDirEnt e) ds.idx).map (fun b' => (b', ⟨ds.arr, ds.idx + 1⟩))

/-- the directory array sits right after the header, its slots are 12 bytes -/
def DirOk (arr : Arr) : Prop := arr.position = 32 ∧ arr.sz = 12

theorem serDirectory_fit (n : Nat) (ents : List DirEnt) (h : ents.length ≤ n) :
    serDirectory n ents = ents.flatMap serDirEnt ++ zeros (12 * (n - ents.length)) := by
  simp [serDirectory, List.take_of_length_le h]

/-- the state after the writers that led to `a`: the image so far, the next free directory slot -/
def stOf (d : DumpIn) (arr : Arr) (a : Acc) : Buf × DirSt := (⟨imgOf d a⟩, ⟨arr, a.dir.length⟩)

theorem publish_spec (d : DumpIn) {a a' : Acc} {body : Bytes} {e : DirEnt} (arr : Arr) (hd : DirOk arr)
    (hroom : a.dir.length < d.numWriters) (h : Acc.Step a a' body [e]) :
    publishEnt (stOf d arr a).2 ⟨imgOf d a ++ body⟩ e = some (stOf d arr a') := by
  obtain ⟨n, hn⟩ : ∃ n, d.numWriters - a.dir.length = n + 1 := ⟨d.numWriters - a.dir.length - 1, by omega⟩
  have h1 : imgOf d a ++ body = serHeader d.numWriters 32 d.timestamp ++ a.dir.flatMap serDirEnt ++
      zeros (12 * (n + 1)) ++ (a.bytes ++ body) := by
    simp [imgOf, serDirectory_fit _ _ (Nat.le_of_lt hroom), hn, List.append_assoc]
  have hstep := fill_slot 12 arr (serHeader d.numWriters 32 d.timestamp) (a.dir.flatMap serDirEnt) (a.bytes ++ body)
    (serDirEnt e) n a.dir.length (by rw [hd.1, serHeader_length]) hd.2 (flatMap_serDirEnt_length _) (serDirEnt_length e)
  have hn' : d.numWriters - (a.dir.length + 1) = n := by omega
  simp only [publishEnt, stOf, h1, hstep, Option.map_some, h.dir, List.length_append, List.length_singleton]
  simp [imgOf, h.bytes, h.dir, serDirectory_fit _ _ (by simp; omega : (a.dir ++ [e]).length ≤ d.numWriters),
    List.flatMap_append, hn', List.append_assoc]

/-- a writer followed by the publication of its entry -/
def runStage (op : Buf → Option (Buf × DirEnt)) (st : Buf × DirSt) : Option (Buf × DirSt) :=
  match op st.1 with
  | some (b, e) => publishEnt st.2 b e
  | none => none

theorem dirlen_stRaw (ty : Nat) (f : Option Bytes) (a : Acc) : (stRaw ty f a).dir.length = a.dir.length + 1 := by
  cases f <;> simp [stRaw, Acc.add, Acc.publish]
theorem dirlen_stDso (d : DumpIn) (a : Acc) : (stDso d a).dir.length = a.dir.length + 1 := by
  unfold stDso; cases d.dso <;> simp [Acc.add, Acc.publish]
theorem dirlen_stHandles (d : DumpIn) (a : Acc) : (stHandles d a).dir.length = a.dir.length + 1 := by
  unfold stHandles; cases d.handles <;> simp [Acc.add, Acc.publish]

/-- eighteen of the nineteen stages publish an entry (`app_memory::write` has no stream of its own) -/
theorem accFrom_dir_length (a0 : Acc) (d : DumpIn) : (accFrom a0 d 19).dir.length = a0.dir.length + 18 := by
  simp [accFrom, stageList, dirlen_stRaw, dirlen_stDso, dirlen_stHandles, stNames, stMemInfo, stSysInfo, stException,
    stMemoryList, stApp, stModules, stThreadList, Acc.add, Acc.publish]

/-- where the stage lemmas run: at least eighteen directory slots in an array right behind the header; a start
    accumulator behind the directory with nothing published yet; a finished image below 4 GiB -/
structure Setup (d : DumpIn) (a0 : Acc) (arr : Arr) : Prop where
  slots : 18 ≤ d.numWriters
  arr : DirOk arr
  base : a0.base = 32 + 12 * d.numWriters
  dir : a0.dir = []
  small : (accFrom a0 d 19).pos < 2 ^ 32

theorem Setup.base_at {d : DumpIn} {a0 : Acc} {arr : Arr} (S : Setup d a0 arr) (k : Nat) :
    (accFrom a0 d k).base = 32 + 12 * d.numWriters := ((accFrom_ext a0 d (Nat.zero_le k)).1.1).trans S.base

theorem Setup.len {d : DumpIn} {a0 : Acc} {arr : Arr} (S : Setup d a0 arr) (k : Nat) :
    (⟨imgOf d (accFrom a0 d k)⟩ : Buf).len = (accFrom a0 d k).pos := imgOf_length d _ (S.base_at k)

theorem Setup.room {d : DumpIn} {a0 : Acc} {arr : Arr} (S : Setup d a0 arr) (k k' : Nat) {body : Bytes} {e : DirEnt}
    (h : Acc.Step (accFrom a0 d k) (accFrom a0 d k') body [e]) :
    (accFrom a0 d k).dir.length < d.numWriters ∧ (accFrom a0 d k).pos + body.length < 2 ^ 32 := by
  obtain ⟨_, _, ⟨es, hes⟩⟩ := accFrom_final a0 d k'
  have h1 := accFrom_dir_length a0 d
  have h2 := (accFrom_final a0 d k').pos_le
  rw [hes, h.dir, S.dir] at h1
  rw [h.pos] at h2
  simp only [List.length_append, List.length_singleton, List.length_nil] at h1
  have := S.slots
  have := S.small
  exact ⟨by omega, by omega⟩

/-- a stage of the pipeline performed by the operations `op`: on any buffer of the length of the image so far they
    append `body` and return the entry `e` -/
theorem stage_to {d : DumpIn} {a0 : Acc} {arr : Arr} (S : Setup d a0 arr) (k k' : Nat) (op : Buf → Option (Buf × DirEnt))
    {body : Bytes} {e : DirEnt} (h : Acc.Step (accFrom a0 d k) (accFrom a0 d k') body [e])
    (hop : ∀ b : Buf, b.len = (accFrom a0 d k).pos → b.len + body.length < 2 ^ 32 → op b = some (⟨b.inner ++ body⟩, e)) :
    runStage op (stOf d arr (accFrom a0 d k)) = some (stOf d arr (accFrom a0 d k')) := by
  obtain ⟨hroom, hlt⟩ := S.room k k' h
  simp only [runStage, stOf, hop _ (S.len k) (S.len k ▸ hlt)]
  exact publish_spec d arr S.arr hroom h

/-- a best-effort writer: its operations when it succeeds; what it had appended and an all-zero entry when it fails -/
def softStage {α : Type} (x : Soft α) (op : Buf → α → Option (Buf × DirEnt)) (st : Buf × DirSt) : Option (Buf × DirSt) :=
  match x with
  | .ok v => runStage (fun b => op b v) st
  | .failed g => publishEnt st.2 ⟨st.1.inner ++ g⟩ zeroEnt

/-- `write_file` / `write_soft_errors`: the content when it could be obtained, otherwise an all-zero entry -/
def rawStage (ty : Nat) (f : Option Bytes) (st : Buf × DirSt) : Option (Buf × DirSt) :=
  match f with
  | some bs => runStage (fun b => some (opRaw ty b bs)) st
  | none => publishEnt st.2 st.1 zeroEnt

/-- `thread_names_stream::write` (operational model of Model/ThreadNames.lean) as a stage -/
def opNames (b : Buf) (ns : List (Nat × List Nat)) : Option (Buf × DirEnt) :=
  match writeThreadNames b (ns.map (fun p => (p.1, some p.2))) with
  | .ok (b', ty, loc) => some (b', ⟨ty, loc.size, loc.rva⟩)
  | _ => none

/-- `generate_dump` as builder operations, started with the per-request state `w0` of the writer (`memory_blocks`,
    `crashing_thread_context`) -/
def opDumpFrom (w0 : WSt) (d : DumpIn) : Option Bytes :=
  let (b1, hslot) := Slot.alloc Buf.empty 32
  let (b2, darr) := Arr.allocArray b1 d.numWriters 12
  match hslot.setValue b2 (serHeader d.numWriters darr.position d.timestamp) with
  | none => none
  | some b3 =>
  match opThreadList d.blamed d.crash.isSome b3 d.threads w0 with
  | none => none
  | some (b4, e, w) =>
  match publishEnt ⟨darr, 0⟩ b4 e with
  | none => none
  | some st1 =>
  match runStage (fun b => opModules b d.modules) st1 with
  | none => none
  | some st2 =>
  let app := opApp st2.1 d.app
  let blocks := w.blocks ++ app.2
  (runStage (fun b => opMemoryList b blocks) (app.1, st2.2)).bind fun st4 =>
  (runStage (fun b => opException b d.crash d.blamed w.ctc d.standalone) st4).bind fun st5 =>
  (runStage (fun b => opSysInfo b d.sys) st5).bind fun st6 =>
  (runStage (fun b => opMemInfo b d.memInfo) st6).bind fun st7 =>
  (rawStage ST_LINUX_CPU_INFO d.cpuinfo st7).bind fun st8 =>
  (rawStage ST_LINUX_PROC_STATUS d.status st8).bind fun st9 =>
  (rawStage ST_LINUX_LSB_RELEASE d.lsb st9).bind fun st10 =>
  (rawStage ST_LINUX_CMD_LINE d.cmdline st10).bind fun st11 =>
  (rawStage ST_LINUX_ENVIRON d.environ st11).bind fun st12 =>
  (rawStage ST_LINUX_AUXV d.auxv st12).bind fun st13 =>
  (rawStage ST_LINUX_MAPS d.maps st13).bind fun st14 =>
  (softStage d.dso opDso st14).bind fun st15 =>
  (rawStage ST_MOZ_LINUX_LIMITS d.limits st15).bind fun st16 =>
  (runStage (fun b => opNames b d.names) st16).bind fun st17 =>
  (softStage d.handles opHandles st17).bind fun st18 =>
  (rawStage ST_MOZ_SOFT_ERRORS d.soft st18).bind fun st19 =>
  some st19.1.inner

/-- `MinidumpWriter::dump`: the per-request state is reset on entry (after the repair), then `generate_dump` -/
def opDump (d : DumpIn) : Option Bytes := opDumpFrom ⟨[], CTC.none⟩ d

/-- the writer as it was: whatever an earlier request left behind is still there -/
def opDumpLegacy (left : WSt) (d : DumpIn) : Option Bytes := opDumpFrom left d

/-- a stage that publishes an all-zero entry: a file that could not be read, a best-effort writer that failed after
    appending `g` -/
theorem zeroStage_to {d : DumpIn} {a0 : Acc} {arr : Arr} (S : Setup d a0 arr) (k k' : Nat) (g : Bytes)
    (hnext : accFrom a0 d k' = ((accFrom a0 d k).add g).publish zeroEnt) :
    publishEnt (stOf d arr (accFrom a0 d k)).2 ⟨imgOf d (accFrom a0 d k) ++ g⟩ zeroEnt =
      some (stOf d arr (accFrom a0 d k')) := by
  have h : Acc.Step (accFrom a0 d k) (accFrom a0 d k') g [zeroEnt] := hnext ▸ step_failed _ g
  exact publish_spec d arr S.arr (S.room k k' h).1 h

theorem rawStage_to {d : DumpIn} {a0 : Acc} {arr : Arr} (S : Setup d a0 arr) (k k' : Nat) (ty : Nat) (f : Option Bytes)
    (hnext : accFrom a0 d k' = stRaw ty f (accFrom a0 d k)) :
    rawStage ty f (stOf d arr (accFrom a0 d k)) = some (stOf d arr (accFrom a0 d k')) := by
  cases f with
  | none =>
    have := zeroStage_to S k k' [] (by rw [hnext, stRaw_none])
    simpa [rawStage, stOf] using this
  | some bs =>
    refine stage_to S k k' (fun b => some (opRaw ty b bs)) (hnext ▸ step_stRaw ty bs _) ?_
    intro b hb hlt
    rw [← hb, Refine_raw ty b bs hlt]

theorem softStage_to {α : Type} {d : DumpIn} {a0 : Acc} {arr : Arr} (S : Setup d a0 arr) (k k' : Nat) (x : Soft α)
    (op : Buf → α → Option (Buf × DirEnt))
    (hok : ∀ v, x = .ok v → runStage (fun b => op b v) (stOf d arr (accFrom a0 d k)) = some (stOf d arr (accFrom a0 d k')))
    (hfail : ∀ g, x = .failed g → accFrom a0 d k' = ((accFrom a0 d k).add g).publish zeroEnt) :
    softStage x op (stOf d arr (accFrom a0 d k)) = some (stOf d arr (accFrom a0 d k')) := by
  cases x with
  | ok v => exact hok v rfl
  | failed g => exact zeroStage_to S k k' g (hfail g rfl)

theorem namesBody_length (pos : Nat) (ns : List (Nat × List Nat)) :
    (namesBody pos ns).length = 4 + 12 * ns.length + strsLen ns := by
  simp only [namesBody, List.length_append, le_length, nameRecs_length]
  exact congrArg _ (strsOf_length ns)

theorem expectedNames_named (ns : List (Nat × List Nat)) : expectedNames (ns.map (fun p => (p.1, some p.2))) = ns := by
  induction ns with
  | nil => rfl
  | cons a r ih => simp [expectedNames] at *; exact ih

/-- The builder operations of `generate_dump`, started with the memory blocks `bl` an earlier request left in the
    writer (and no crashing-thread context), produce the closed-form image of the pipeline started with those blocks. -/
theorem Compose_from (d : DumpIn) (bl : List Desc) (hN : 18 ≤ d.numWriters)
    (hsz : (accFrom ⟨32 + 12 * d.numWriters, [], [], bl⟩ d 19).pos < 2 ^ 32) (htid : ∀ p ∈ d.names, p.1 < 2 ^ 31) :
    opDumpFrom ⟨bl, CTC.none⟩ d = some (imgOf d (accFrom ⟨32 + 12 * d.numWriters, [], [], bl⟩ d 19)) := by
  let arr : Arr := ⟨32, d.numWriters, 12⟩
  let a0 : Acc := ⟨32 + 12 * d.numWriters, [], [], bl⟩
  have S : Setup d a0 arr := ⟨hN, ⟨rfl, rfl⟩, rfl, rfl, hsz⟩
  have len := S.len
  have hinit1 : Slot.alloc Buf.empty 32 = (⟨zeros 32⟩, ⟨0, 32⟩) := Slot.alloc_eq Buf.empty 32 (by decide)
  have hinit2 : Arr.allocArray ⟨zeros 32⟩ d.numWriters 12 = (⟨zeros 32 ++ zeros (d.numWriters * 12)⟩, arr) := by
    simp [Arr.allocArray, Buf.reserve, zeros, asU32, arr]
  have hinit3 : (⟨0, 32⟩ : Slot).setValue ⟨zeros 32 ++ zeros (d.numWriters * 12)⟩ (serHeader d.numWriters arr.position d.timestamp) =
      some ⟨imgOf d (accFrom a0 d 0)⟩ := by
    refine (Buf.writeAt_mid [] (zeros 32) (serHeader d.numWriters 32 d.timestamp) (zeros (d.numWriters * 12))
      (by rw [zeros_length, serHeader_length])).trans ?_
    simp [imgOf, accFrom, a0, serDirectory, zeros, Nat.mul_comm]
  -- the thread list also leaves the memory blocks and the crashing-thread context
  have s0 : Acc.Step (accFrom a0 d 0) (accFrom a0 d 1) _ _ := step_stThreadList d (accFrom a0 d 0)
  have h0 : opThreadList d.blamed d.crash.isSome ⟨imgOf d (accFrom a0 d 0)⟩ d.threads ⟨bl, CTC.none⟩ =
      some (⟨imgOf d (accFrom a0 d 0) ++ threadListBody (accFrom a0 d 0).pos d.threads⟩,
        ⟨ST_THREAD_LIST, 4 + 48 * d.threads.length, (accFrom a0 d 0).pos⟩, ⟨(accFrom a0 d 1).blocks, ctcOf d⟩) := by
    have hlt := (S.room 0 1 s0).2
    have := Refine_thread_list d.blamed d.crash.isSome ⟨imgOf d (accFrom a0 d 0)⟩ d.threads ⟨bl, CTC.none⟩
      (by rw [len]; simp [threadListBody, threadRecs_length] at hlt; omega)
    -- the blocks and the context of the statement are those of `this` by unfolding: nothing is appended yet, so the
    -- position is the `32 + 12·N` from which `ctcOf` counts
    rwa [len] at this
  have hpub0 : publishEnt ⟨arr, 0⟩ _ _ = _ := publish_spec d (a := accFrom a0 d 0) arr S.arr (S.room 0 1 s0).1 s0
  have hs1 := stage_to S 1 2 (fun b => opModules b d.modules) (step_stModules d _) (fun b hb hlt =>
    hb ▸ Refine_modules b d.modules (by simp [moduleRecs_length] at hlt; omega))
  -- application memory has no stream of its own: bytes and blocks only
  have s2 : Acc.Step (accFrom a0 d 2) (accFrom a0 d 3) _ _ := step_stApp d (accFrom a0 d 2)
  have happ : opApp (stOf d arr (accFrom a0 d 2)).1 d.app = (⟨imgOf d (accFrom a0 d 3)⟩, appBlocksAt (accFrom a0 d 2).pos d.app) := by
    have hlt := (accFrom_final a0 d 3).pos_le
    rw [s2.pos] at hlt
    have := Refine_app_memory ⟨imgOf d (accFrom a0 d 2)⟩ d.app (by rw [len]; have := S.small; omega)
    rw [len] at this
    show opApp ⟨imgOf d (accFrom a0 d 2)⟩ d.app = _
    rw [this]
    simp [imgOf, s2.bytes, s2.dir, List.append_assoc]
  have hst3 : ((⟨imgOf d (accFrom a0 d 3)⟩ : Buf), (stOf d arr (accFrom a0 d 2)).2) = stOf d arr (accFrom a0 d 3) := by
    simp [stOf, s2.dir]
  -- (the block list handed to the memory-list writer is `(accFrom a0 d 3).blocks` by unfolding)
  have hs3 : runStage (fun b => opMemoryList b ((accFrom a0 d 1).blocks ++ appBlocksAt (accFrom a0 d 2).pos d.app))
      (stOf d arr (accFrom a0 d 3)) = some (stOf d arr (accFrom a0 d 4)) :=
    stage_to S 3 4 (fun b => opMemoryList b (accFrom a0 d 3).blocks) (step_stMemoryList _) (fun b hb hlt =>
      hb ▸ Refine_memory_list b _ (by simp [memoryListStream_length] at hlt; omega))
  have hs4 : runStage (fun b => opException b d.crash d.blamed (ctcOf d) d.standalone) (stOf d arr (accFrom a0 d 4)) =
      some (stOf d arr (accFrom a0 d 5)) :=
    stage_to S 4 5 _ (step_stException d _) (fun b hb hlt =>
      hb ▸ Refine_exception d b (by rwa [List.length_append, exceptionStream_length, ← Nat.add_assoc] at hlt))
  have hs5 := stage_to S 5 6 (fun b => opSysInfo b d.sys) (step_stSysInfo d _) (fun b hb hlt =>
    hb ▸ Refine_sysinfo b d.sys (by simp [serSysInfo_length, mdStr_length] at hlt; omega))
  have hs6 := stage_to S 6 7 (fun b => opMemInfo b d.memInfo) (step_stMemInfo d _) (fun b hb hlt =>
    hb ▸ Refine_mem_info b d.memInfo (by simp [memInfoBody_length] at hlt; omega))
  have hs7 := rawStage_to S 7 8 ST_LINUX_CPU_INFO d.cpuinfo rfl
  have hs8 := rawStage_to S 8 9 ST_LINUX_PROC_STATUS d.status rfl
  have hs9 := rawStage_to S 9 10 ST_LINUX_LSB_RELEASE d.lsb rfl
  have hs10 := rawStage_to S 10 11 ST_LINUX_CMD_LINE d.cmdline rfl
  have hs11 := rawStage_to S 11 12 ST_LINUX_ENVIRON d.environ rfl
  have hs12 := rawStage_to S 12 13 ST_LINUX_AUXV d.auxv rfl
  have hs13 := rawStage_to S 13 14 ST_LINUX_MAPS d.maps rfl
  have hs14 := softStage_to S 14 15 d.dso opDso
    (fun x hx => stage_to S 14 15 (fun b => opDso b x) (step_stDso d _ x hx) (fun b hb hlt =>
      hb ▸ Refine_dso b x (by rw [← hb] at hlt; simp [serDsoDebug_length] at hlt; omega)))
    (fun g hg => stDso_failed d _ g hg)
  have hs15 := rawStage_to S 15 16 ST_MOZ_LINUX_LIMITS d.limits rfl
  have hs16 := stage_to S 16 17 (fun b => opNames b d.names) (step_stNames d _) (fun b hb hlt => by
    have := C15_image_refines b (d.names.map (fun p => (p.1, some p.2))) (List.forall_mem_map.mpr htid)
      (by rw [expectedNames_named]; rw [namesBody_length] at hlt; omega)
    rw [expectedNames_named] at this
    simp only [opNames, this, ← hb]
    rfl)
  have hs17 := softStage_to S 17 18 d.handles opHandles
    (fun x hx => stage_to S 17 18 (fun b => opHandles b x) (step_stHandles d _ x hx) (fun b hb hlt =>
      hb ▸ Refine_handles b x (by simp [handleRecs_length] at hlt; omega)))
    (fun g hg => stHandles_failed d _ g hg)
  have hs18 := rawStage_to S 18 19 ST_MOZ_SOFT_ERRORS d.soft rfl
  unfold opDumpFrom
  simp only [hinit1, hinit2, hinit3, h0, hpub0, hs1, happ, hst3]
  -- (rewriting one by one: `simp only` with these equations over the chain of binds is slow in the kernel)
  rw [hs3, Option.bind_some, hs4, Option.bind_some, hs5, Option.bind_some, hs6, Option.bind_some, hs7, Option.bind_some,
    hs8, Option.bind_some, hs9, Option.bind_some, hs10, Option.bind_some, hs11, Option.bind_some, hs12, Option.bind_some,
    hs13, Option.bind_some, hs14, Option.bind_some, hs15, Option.bind_some, hs16, Option.bind_some, hs17, Option.bind_some,
    hs18, Option.bind_some]
  rfl

/-- **Composition.** The builder operations of `generate_dump` — header and directory reserved, header filled, the
    eighteen writers in order, each directory entry set into the next slot — produce exactly the closed-form image
    (`htid`: the names writer refuses a thread id of 2^31 or more). -/
theorem Compose_dump (d : DumpIn) (hN : 18 ≤ d.numWriters) (hsz : (dumpBytes d).length < 2 ^ 32)
    (htid : ∀ p ∈ d.names, p.1 < 2 ^ 31) :
    opDump d = some (dumpBytes d) :=
  Compose_from d [] hN (imgOf_length d (dumpAcc d) (accAfter_base d 19) ▸ hsz) htid

end Mdw
