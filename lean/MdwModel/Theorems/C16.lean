/-
  C16 — The image builder obeys its layout laws   (src/mem_writer.rs)

  Property theorems:
    C16_alloc, C16_allocWithVal, C16_writeBytes, C16_allocArray, C16_allocFromArray   (append laws)
    C16_setValue_frame, C16_setValueAt_frame, C16_locationOfIndex                     (patch laws)
    C16_history            every history is a chain of appends / confined patches
    C16_effect_preserves   … so earlier bytes outside the one patched range never change
    C16_writeString        string layout
    C16_utf16_roundtrip    decode16 (encode16 s) = s  for every s
-/
import MdwModel.Lemmas.Buffer
import MdwModel.Model.BufferHistory
namespace Mdw

/-- Reserving a slot appends exactly `sz` zero bytes and returns (old end, sz). -/
theorem C16_alloc (b : Buf) (sz : Nat) (hb : b.len + sz < 2 ^ 32) :
    (Slot.alloc b sz).1.inner = b.inner ++ zeros sz ∧
    (Slot.alloc b sz).2.location = ⟨sz, b.len⟩ := by
  rw [Slot.alloc_eq b sz hb]
  exact ⟨rfl, Slot.location_of_fit hb⟩

/-- Writing a value appends exactly its serialisation and returns (old end, size). -/
theorem C16_allocWithVal (b : Buf) (v : Bytes) (hb : b.len + v.length < 2 ^ 32) :
    ∃ b' s, Slot.allocWithVal b v = some (b', s) ∧ b'.inner = b.inner ++ v ∧
      s.location = ⟨v.length, b.len⟩ :=
  ⟨_, _, Slot.allocWithVal_eq b v hb, rfl, Slot.location_of_fit hb⟩

theorem C16_writeBytes (b : Buf) (bs : Bytes) (hb : b.len + bs.length < 2 ^ 32) :
    (Arr.writeBytes b bs).1.inner = b.inner ++ bs ∧
    (Arr.writeBytes b bs).2.location = ⟨bs.length, b.len⟩ := by
  rw [Arr.writeBytes_eq b bs hb]
  exact ⟨rfl, Arr.location_bytes hb⟩

theorem C16_allocArray (b : Buf) (n sz : Nat) (hb : b.len + n * sz < 2 ^ 32) :
    (Arr.allocArray b n sz).1.inner = b.inner ++ zeros (n * sz) ∧
    (Arr.allocArray b n sz).2.location = ⟨n * sz, b.len⟩ := by
  rw [Arr.allocArray_eq b n sz hb]
  exact ⟨rfl, Arr.location_of_fit hb⟩

/-- An array written from values appends exactly the concatenated serialisations. -/
theorem C16_allocFromArray (b : Buf) (vs : List Bytes) (sz : Nat)
    (hv : ∀ v ∈ vs, v.length = sz) (hb : b.len + vs.length * sz < 2 ^ 32) :
    ∃ b' a, Arr.allocFromArray b vs sz = some (b', a) ∧ b'.inner = b.inner ++ vs.flatten ∧
      a.location = ⟨vs.length * sz, b.len⟩ :=
  ⟨_, _, Arr.allocFromArray_eq b vs sz hv hb, rfl, Arr.location_of_fit hb⟩

/-- an in-bounds `write_at`: the one fact behind both patch laws -/
theorem Buf.writeAt_frame (b : Buf) (off : Nat) (v : Bytes) (h : off + v.length ≤ b.len) :
    ∃ b', b.writeAt off v = some b' ∧ b'.len = b.len ∧ b'.inner = b.inner.take off ++ v ++ b.inner.drop (off + v.length) ∧
      (∀ i, i < off ∨ off + v.length ≤ i → b'.inner[i]? = b.inner[i]?) ∧
      (∀ i, i < v.length → b'.inner[off + i]? = v[i]?) := by
  have hoff : off ≤ b.inner.length := Nat.le_trans (Nat.le_add_right _ _) h
  refine ⟨_, Buf.writeAt_splice b off v h, splice_length _ _ _ h, rfl, fun i hi => ?_, fun i hi => ?_⟩
  · exact splice_get_outside _ _ _ _ hoff hi
  · exact splice_get_inside _ _ _ _ hoff hi

/-- Filling a reserved slot later changes only that slot: same length, bytes outside the slot
    are untouched, bytes inside are the value. -/
theorem C16_setValue_frame (b : Buf) (s : Slot) (v : Bytes)
    (hv : v.length = s.size) (hs : s.position + s.size ≤ b.len) :
    ∃ b', s.setValue b v = some b' ∧ b'.len = b.len ∧
      b'.inner = b.inner.take s.position ++ v ++ b.inner.drop (s.position + v.length) ∧
      (∀ i, i < s.position ∨ s.position + s.size ≤ i → b'.inner[i]? = b.inner[i]?) ∧
      (∀ i, i < s.size → b'.inner[s.position + i]? = v[i]?) := by
  rw [← hv] at hs ⊢
  exact Buf.writeAt_frame b s.position v hs

/-- Element `i` of an array lives at `base + i × element size`; writing it changes exactly
    those bytes. -/
theorem C16_setValueAt_frame (b : Buf) (a : Arr) (v : Bytes) (i : Nat)
    (hv : v.length = a.sz) (hi : i < a.arraySize)
    (ha : a.position + a.arraySize * a.sz ≤ b.len) :
    ∃ b', a.setValueAt b v i = some b' ∧ b'.len = b.len ∧
      b'.inner = b.inner.take (a.position + i * a.sz) ++ v ++
                 b.inner.drop (a.position + i * a.sz + v.length) ∧
      (∀ j, j < a.position + i * a.sz ∨ a.position + (i+1) * a.sz ≤ j →
          b'.inner[j]? = b.inner[j]?) ∧
      (∀ j, j < a.sz → b'.inner[a.position + i * a.sz + j]? = v[j]?) := by
  have hle : (i + 1) * a.sz ≤ a.arraySize * a.sz := Nat.mul_le_mul_right _ hi
  rw [Nat.add_mul, Nat.one_mul] at hle
  have := Buf.writeAt_frame b (a.position + i * a.sz) v (by omega)
  rw [hv] at this
  rw [Nat.add_mul, Nat.one_mul, ← Nat.add_assoc, Arr.setValueAt, Nat.mul_comm a.sz i, hv]
  exact this

/-- `location_of_index i` designates exactly element `i`. -/
theorem C16_locationOfIndex (a : Arr) (i : Nat) (h : a.position + a.sz * i + a.sz < 2 ^ 32) :
    a.locationOfIndex i = some ⟨a.sz, a.position + i * a.sz⟩ := by
  have h3 : a.position + a.sz * i < 2 ^ 32 := by omega
  rw [Arr.locationOfIndex, asU32_of_lt (show a.sz * i < 2 ^ 32 by omega), asU32_of_lt (show a.sz < 2 ^ 32 by omega),
    if_pos h3, Nat.mul_comm]

theorem char_valid_nat (c : Char) :
    c.toNat < 0xD800 ∨ (0xDFFF < c.toNat ∧ c.toNat < 0x110000) := c.valid

theorem encode16Scalar_lt (c : Char) : ∀ u ∈ encode16Scalar c.toNat, u < 65536 := by
  intro u hu
  have hc := char_valid_nat c
  unfold encode16Scalar at hu
  split at hu
  · simp at hu; omega
  · simp at hu; rcases hu with hu | hu <;> omega

theorem decode16_scalar_append (c : Char) (rest : List Nat) :
    decode16 (encode16Scalar c.toNat ++ rest) = (decode16 rest).map (c.toNat :: ·) := by
  have hv := char_valid_nat c
  unfold encode16Scalar
  split
  · have : c.toNat < 0xD800 ∨ 0xE000 ≤ c.toNat := by omega
    cases rest with
    | nil => simp [decode16, this]
    | cons v rest => simp [decode16, this]
  · have h1 : ¬ (0xD800 + (c.toNat - 0x10000) / 0x400 < 0xD800 ∨ 0xE000 ≤ 0xD800 + (c.toNat - 0x10000) / 0x400) := by
      omega
    have h2 : 0xD800 + (c.toNat - 0x10000) / 0x400 < 0xDC00 ∧
        0xDC00 ≤ 0xDC00 + (c.toNat - 0x10000) % 0x400 ∧ 0xDC00 + (c.toNat - 0x10000) % 0x400 < 0xE000 := by
      omega
    have h3 : 0x10000 + (0xD800 + (c.toNat - 0x10000) / 0x400 - 0xD800) * 0x400 +
        (0xDC00 + (c.toNat - 0x10000) % 0x400 - 0xDC00) = c.toNat := by omega
    simp only [List.cons_append, List.nil_append, decode16]
    simp only [Bool.or_eq_true, decide_eq_true_eq, h1, if_false, Bool.and_eq_true, h2, and_self,
      if_true, h3]

/-- **C16 (strings).** Every Unicode string survives the UTF-16 encoding used by
    `write_string_to_location`: decoding the stored code units gives back the original text. -/
theorem C16_utf16_roundtrip (s : List Char) :
    decode16 (encode16 s) = some (s.map Char.toNat) := by
  induction s with
  | nil => simp [encode16, decode16]
  | cons c cs ih =>
    have : encode16 (c :: cs) = encode16Scalar c.toNat ++ encode16 cs := by
      simp [encode16]
    rw [this, decode16_scalar_append, ih]
    simp

theorem units16LE_eq_flatten (us : List Nat) : units16LE us = (us.map (le 2 ·)).flatten :=
  List.flatMap_def ..

theorem units16LE_length (us : List Nat) : (units16LE us).length = us.length * 2 := by
  rw [units16LE_eq_flatten, flatten_length_of_all _ 2 (List.forall_mem_map.mpr fun u _ => le_length 2 u), List.length_map]

theorem writeString_go_eq_fillFrom (arr : Arr) (b : Buf) (k : Nat) (us : List Nat) :
    writeString.go arr b k us = Arr.fillFrom b arr.position arr.sz k (us.map (le 2 ·)) := by
  induction us generalizing b k with
  | nil => rfl
  | cons u us ih =>
    rw [writeString.go, List.map_cons, Arr.fillFrom, Arr.setValueAt, Nat.mul_comm]
    cases Buf.writeAt b (arr.position + k * arr.sz) (le 2 u) with
    | none => rfl
    | some b' => exact ih b' (k + 1)

theorem writeString_go_fresh (arr : Arr) (pre : Bytes) (us : List Nat)
    (hsz : arr.sz = 2) (hpos : arr.position = pre.length) :
    writeString.go arr ⟨pre ++ zeros (us.length * 2)⟩ 0 us = some ⟨pre ++ units16LE us⟩ := by
  have h := Arr.fillFrom_fresh pre (us.map (le 2 ·)) 2 (List.forall_mem_map.mpr fun u _ => le_length 2 u)
  rw [List.length_map, ← units16LE_eq_flatten] at h
  rw [writeString_go_eq_fillFrom, hsz, hpos, h]

/-- **C16 (string layout).** A string is stored as a 4-byte little-endian byte length followed
    by exactly that many bytes of UTF-16LE code units; the returned location covers both and
    starts at the old end of the image. -/
theorem C16_writeString (b : Buf) (units : List Nat)
    (hb : b.len + 4 + 2 * units.length < 2 ^ 32) :
    writeString b units =
      .ok (⟨b.inner ++ le 4 (2 * units.length) ++ units16LE units⟩,
           ⟨4 + 2 * units.length, b.len⟩) := by
  have hn : ¬ units.length * 2 ≥ 2 ^ 32 := by omega
  have hfit1 : b.len + (le 4 (units.length * 2)).length < 2 ^ 32 := by rw [le_length]; omega
  have hfit2 : (⟨b.inner ++ le 4 (units.length * 2)⟩ : Buf).len + units.length * 2 < 2 ^ 32 := by
    rw [Buf.len_app, le_length]; omega
  unfold writeString
  rw [if_neg hn, Slot.allocWithVal_eq b _ hfit1]
  simp only
  rw [Arr.allocArray_eq _ _ _ hfit2]
  rw [writeString_go_fresh _ _ _ rfl rfl]
  simp only [Slot.location_of_fit hfit1, Arr.location_of_fit hfit2]
  rw [le_length, if_pos (by omega), Nat.mul_comm units.length 2]

example : writeString Buf.empty (encode16 ['a', '😀']) =
    .ok (⟨[6,0,0,0, 0x61,0, 0x3D,0xD8, 0x00,0xDE]⟩, ⟨10, 0⟩) := by decide

/-- What a caller must respect (and what every writer in the crate is meant to respect):
    the image stays below 4 GiB, a slot is filled with a value of its own type, an array
    element index is inside the array. -/
def OpOk (st : St) : Op → Prop
  | .alloc sz => st.buf.len + sz < 2 ^ 32
  | .allocWithVal v => st.buf.len + v.length < 2 ^ 32
  | .setValue h v => ∃ s, st.hs[h]? = some (.slot s) ∧ v.length = s.size
  | .allocArray n sz => st.buf.len + n * sz < 2 ^ 32
  | .allocFromArray vs sz => (∀ v ∈ vs, v.length = sz) ∧ st.buf.len + vs.length * sz < 2 ^ 32
  | .setValueAt h idx v => ∃ a, st.hs[h]? = some (.arr a) ∧ v.length = a.sz ∧ idx < a.arraySize
  | .writeBytes bs => st.buf.len + bs.length < 2 ^ 32
  | .writeString units => st.buf.len + 4 + 2 * units.length < 2 ^ 32

inductive Effect (st st' : St) (r : Option Loc) : Prop where
  /-- appended `new` at the old end; returned exactly (old end, |new|); one new handle whose
      extent is that range. -/
  | append (new : Bytes) (h : Handle)
      (hbuf : st'.buf.inner = st.buf.inner ++ new)
      (hret : r = some ⟨new.length, st.buf.len⟩)
      (hhs : st'.hs = st.hs ++ [h])
      (hext : h.ext = (st.buf.len, new.length))
  /-- patched `v` at `p`, inside the extent of an existing handle `k`; nothing else changes. -/
  | patch (k p : Nat) (v : Bytes) (h : Handle)
      (hk : st.hs[k]? = some h)
      (hin : h.ext.1 ≤ p ∧ p + v.length ≤ h.ext.1 + h.ext.2)
      (hbuf : st'.buf.inner = st.buf.inner.take p ++ v ++ st.buf.inner.drop (p + v.length))
      (hhs : st'.hs = st.hs)
      (hret : r = none)

def Inv (st : St) : Prop := ∀ h ∈ st.hs, h.ext.1 + h.ext.2 ≤ st.buf.len

/-- Shape shared by every appending operation, on the value `step` returns (`n` is the size as the operation reports
    it). -/
theorem Effect.of_append {st : St} (hinv : Inv st) (new : Bytes) (h : Handle) (n : Nat)
    (hn : new.length = n) (hext : h.ext = (st.buf.len, n)) :
    ∃ st' r, some ((⟨⟨st.buf.inner ++ new⟩, st.hs ++ [h]⟩ : St), some (⟨n, st.buf.len⟩ : Loc)) = some (st', r) ∧
      Effect st st' r ∧ Inv st' := by
  subst hn
  refine ⟨_, _, rfl, .append new h rfl rfl rfl hext, ?_⟩
  intro x hx
  show x.ext.1 + x.ext.2 ≤ (st.buf.inner ++ new).length
  rw [List.length_append]
  rcases List.mem_append.mp hx with hx | hx
  · exact Nat.le_trans (hinv x hx) (Nat.le_add_right _ _)
  · rw [List.mem_singleton.mp hx, hext]; exact Nat.le_refl _

/-- The same for a patch confined to a handle; `step` maps over the result of `write_at`. -/
theorem Effect.of_patch {st : St} (hinv : Inv st) (k p : Nat) (v : Bytes) (h : Handle)
    (hk : st.hs[k]? = some h) (hlo : h.ext.1 ≤ p) (hhi : p + v.length ≤ h.ext.1 + h.ext.2) :
    ∃ st' r, (Buf.writeAt st.buf p v).map (fun b => ((⟨b, st.hs⟩ : St), (none : Option Loc))) = some (st', r) ∧
      Effect st st' r ∧ Inv st' := by
  have hin : p + v.length ≤ st.buf.inner.length :=
    Nat.le_trans hhi (hinv h (List.mem_of_getElem? hk))
  refine ⟨_, _, congrArg _ (Buf.writeAt_inbounds st.buf p v hin), .patch k p v h hk ⟨hlo, hhi⟩ rfl rfl rfl, ?_⟩
  intro x hx
  show x.ext.1 + x.ext.2 ≤ (splice st.buf.inner p v).length
  rw [splice_length _ _ _ hin]
  exact hinv x hx

theorem step_effect (st : St) (op : Op) (hinv : Inv st) (hok : OpOk st op) :
    ∃ st' r, step st op = some (st', r) ∧ Effect st st' r ∧ Inv st' := by
  cases op with
  | alloc sz =>
    simp only [step, Slot.alloc_eq _ _ hok, Slot.location_of_fit hok]
    exact Effect.of_append hinv (zeros sz) (.slot ⟨st.buf.len, sz⟩) sz (zeros_length sz) rfl
  | allocWithVal v =>
    simp only [step, Slot.allocWithVal_eq _ _ hok, Slot.location_of_fit hok]
    exact Effect.of_append hinv v (.slot ⟨st.buf.len, v.length⟩) v.length rfl rfl
  | allocArray n sz =>
    simp only [step, Arr.allocArray_eq _ _ _ hok, Arr.location_of_fit hok]
    exact Effect.of_append hinv (zeros (n * sz)) (.arr ⟨st.buf.len, n, sz⟩) (n * sz) (zeros_length _) rfl
  | allocFromArray vs sz =>
    simp only [step, Arr.allocFromArray_eq _ _ _ hok.1 hok.2, Arr.location_of_fit hok.2]
    exact Effect.of_append hinv vs.flatten (.arr ⟨st.buf.len, vs.length, sz⟩) (vs.length * sz)
      (flatten_length_of_all vs sz hok.1) rfl
  | writeBytes bs =>
    simp only [step, Arr.writeBytes_eq _ _ hok, Arr.location_bytes hok]
    exact Effect.of_append hinv bs (.arr ⟨st.buf.len, bs.length, 1⟩) bs.length rfl
      (by rw [Handle.ext, Nat.mul_one])
  | writeString us =>
    simp only [step, C16_writeString _ _ hok, List.append_assoc]
    exact Effect.of_append hinv (le 4 (2 * us.length) ++ units16LE us)
      (.arr ⟨st.buf.len, 4 + 2 * us.length, 1⟩) (4 + 2 * us.length)
      (by rw [List.length_append, units16LE_length, le_length, Nat.mul_comm])
      (by rw [Handle.ext, Nat.mul_one])
  | setValue k v =>
    obtain ⟨s, hs, hv⟩ := hok
    simp only [step, hs]
    exact Effect.of_patch hinv k s.position v (.slot s) hs (Nat.le_refl _) (by rw [hv]; exact Nat.le_refl _)
  | setValueAt k idx v =>
    obtain ⟨a, hs, hv, hi⟩ := hok
    have hle : a.sz * idx + a.sz ≤ a.arraySize * a.sz := by
      rw [← Nat.mul_succ, Nat.mul_comm]; exact Nat.mul_le_mul_right _ hi
    simp only [step, hs]
    exact Effect.of_patch hinv k (a.position + a.sz * idx) v (.arr a) hs
      (Nat.le_add_right _ _) (by rw [hv, Nat.add_assoc]; exact Nat.add_le_add_left hle _)

/-- A history, valid op by op w.r.t. the state it is applied to, and the chain of states. -/
inductive Run : St → List Op → St → Prop where
  | nil (st) : Run st [] st
  | cons {st st' st'' op ops r} : OpOk st op → step st op = some (st', r) → Effect st st' r →
      Run st' ops st'' → Run st (op :: ops) st''

/-- Validity of a whole history (each op acceptable in the state reached so far). -/
def HistOk : St → List Op → Prop
  | _, [] => True
  | st, op :: ops => OpOk st op ∧ ∀ st' r, step st op = some (st', r) → HistOk st' ops

/-- **C16 (histories).** For every history of reserve / write / fill-later / array operations
    that keeps the image below 4 GiB and fills slots with values of their own type and array
    elements inside their array, no operation panics and every operation is either an append at
    the current end returning exactly (old end, size) or a patch confined to the extent of one
    previously returned handle. -/
theorem C16_history (st : St) (ops : List Op) (hinv : Inv st) (hok : HistOk st ops) :
    ∃ st', Run st ops st' ∧ Inv st' := by
  induction ops generalizing st with
  | nil => exact ⟨st, .nil st, hinv⟩
  | cons op ops ih =>
    obtain ⟨ho, hrest⟩ := hok
    obtain ⟨st1, r, hs, he, hi⟩ := step_effect st op hinv ho
    obtain ⟨st2, hr, hi2⟩ := ih st1 hi (hrest st1 r hs)
    exact ⟨st2, .cons ho hs he hr, hi2⟩

/-- Consequence: along any valid history earlier bytes never move: the image only grows and
    every byte outside the one patched range `[p, p+n)` (empty for an append, inside one existing
    handle's extent for a patch) keeps its value.  Stated for one step (a run is a chain). -/
theorem C16_effect_preserves (st st' : St) (r : Option Loc) (hinv : Inv st) (e : Effect st st' r) :
    st.buf.len ≤ st'.buf.len ∧
    ∃ p n, (∀ i, i < st.buf.len → (i < p ∨ p + n ≤ i) → st'.buf.inner[i]? = st.buf.inner[i]?) ∧
      (n = 0 ∨ ∃ (k : Nat) (h : Handle), st.hs[k]? = some h ∧ h.ext.1 ≤ p ∧ p + n ≤ h.ext.1 + h.ext.2) := by
  cases e with
  | append new h hbuf hret hhs hext =>
    refine ⟨?_, 0, 0, fun i hi _ => ?_, .inl rfl⟩
    · rw [Buf.len, Buf.len, hbuf, List.length_append]; exact Nat.le_add_right _ _
    · rw [hbuf]; exact List.getElem?_append_left hi
  | patch k p v h hk hin hbuf hhs hret =>
    have hle : p + v.length ≤ st.buf.inner.length := Nat.le_trans hin.2 (hinv h (List.mem_of_getElem? hk))
    refine ⟨Nat.le_of_eq ?_, p, v.length, fun i _ hi => ?_, .inr ⟨k, h, hk, hin⟩⟩
    · rw [Buf.len, Buf.len, hbuf]; exact (splice_length _ _ _ hle).symm
    · rw [hbuf]; exact splice_get_outside _ _ _ _ (Nat.le_trans (Nat.le_add_right _ _) hle) hi

/-- Non-vacuity: a concrete mixed history satisfies the hypotheses. -/
example : HistOk ⟨Buf.empty, []⟩
    [.alloc 4, .allocArray 2 3, .setValueAt 1 1 [1,2,3], .setValue 0 [9,9,9,9], .writeBytes [7]] := by
  simp [HistOk, OpOk, step, Slot.alloc, Arr.allocArray, Buf.reserve, Buf.empty, Buf.len, asU32,
    Slot.setValue, Arr.setValueAt, Buf.writeAt, zeros]

end Mdw
