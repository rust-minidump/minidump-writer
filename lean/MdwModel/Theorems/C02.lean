/-
  C02 — Dumping is total: it always returns and never panics or hangs

  Totality statements of the modelled algorithms (each model reproduces the Rust arithmetic with
  explicit panic / fuel outcomes, so "the result is ok or err" means no panic and no runaway loop):

    C12_total, C06_total, C06_walk_total   (imported)  sanitiser, stack lookup, guard-page walk
    C16_history, C09_history               (imported)  builder / directory section never panic on valid histories
    C02_walk_terminates   the repaired link_map walk ends within (number of distinct records + 1)
                          steps on every memory, cyclic or not
    C02_walk_selfloop     a self-referential list yields one entry (the unrepaired loop diverges:
                          C18_walk_cycle_diverges)
    C02_no_dev_open       no file under /dev is ever opened for a mapping
    C02_dev_prefix        (the model's `/dev/` prefix is the source's)
    C02_sover_total       the version parser is a total function of the file name (by construction);
                          evaluated instances incl. a multi-byte character after the digits
-/
import MdwModel.Model.Hostile
import MdwModel.Theorems.C12
import MdwModel.Theorems.C06
import MdwModel.Theorems.C09
import MdwModel.Theorems.C18
import MdwModel.Generated.Source
namespace Mdw

/-- every step either ends the walk or adds a new address to `visited`; with fuel larger than the
    number of addresses that can still be added the walk cannot run out of fuel.  `univ` is any
    finite set of addresses the chain stays in (e.g. the addresses of mapped memory). -/
theorem C02_walk_terminates (m : WordMem) (univ : List Nat) (fuel : Nat) (visited : List Nat) (a : Nat)
    (hsub : ∀ x, (readLinkMap m x).isSome → x ∈ univ)
    (hnodup : visited.Nodup) (hvis : ∀ x ∈ visited, x ∈ univ)
    (hfuel : univ.length < fuel + visited.length) :
    walkLinkMapsV m fuel visited a ≠ .fuelOut := by
  induction fuel generalizing visited a with
  | zero =>
    have : visited.length ≤ univ.length := List.Nodup.length_le_of_subset hnodup hvis
    omega
  | succ fuel ih =>
    cases a with
    | zero => simp [walkLinkMapsV]
    | succ a' =>
      unfold walkLinkMapsV
      simp only
      split
      · simp
      · rename_i hc
        cases hr : readLinkMap m (a' + 1) with
        | none => simp
        | some lm =>
          simp only
          have hmem : a' + 1 ∈ univ := hsub _ (by rw [hr]; rfl)
          have hnot : a' + 1 ∉ visited := by simpa using hc
          have := ih ((a' + 1) :: visited) lm.next (List.nodup_cons.mpr ⟨hnot, hnodup⟩)
            (List.forall_mem_cons.mpr ⟨hmem, hvis⟩) (by rw [List.length_cons]; omega)
          split
          · simp
          · exact this

/-- a link_map that points at itself: one entry, no divergence -/
theorem C02_walk_selfloop :
    walkLinkMapsV (fun a => if a = 4096 + 24 then some 4096 else some 0) 3 [] 4096 = .ok [⟨0, 0, 0, 4096⟩] := by
  decide

/-- **C02 (no file under /dev is opened).** -/
theorem C02_no_dev_open (name : Option Bytes) (f1 f2 ex : Bool) :
    ∀ p ∈ filesOpened name f1 f2 ex, DEV_PREFIX.isPrefixOf p = false := by
  intro p hp
  cases name with
  | none => cases hp
  | some n =>
    cases hd : DEV_PREFIX.isPrefixOf n with
    | true => simp [filesOpened, safeToOpen, hd] at hp
    | false =>
      have one : ∀ c : Bool, p ∈ (if c then [n] else []) → p = n := fun c h => by
        cases c
        · cases h
        · exact List.mem_singleton.mp h
      rw [filesOpened, List.mem_append] at hp
      rw [hp.elim (one _) (one _)]
      exact hd

/-- the `/dev/` prefix of the model is the one in the source -/
theorem C02_dev_prefix : Src.devPrefix = DEV_PREFIX := by decide

/-- evaluated instances of the version parser, incl. the input that made the unrepaired code
    slice inside a character (`lib.so.1.2.3é4`) -/
theorem C02_sover_total :
    soVersionParse "libfoo.so.1.2.3é4".toList = some ⟨1, 2, 3, 4⟩ ∧
    soVersionParse "libfoo.so.1.2.2rc5".toList = some ⟨1, 2, 2, 5⟩ ∧
    soVersionParse "libfoo.so".toList = none ∧
    soVersionParse "x.so.+7.é".toList = some ⟨7, 0, 0, 0⟩ := by decide

end Mdw
