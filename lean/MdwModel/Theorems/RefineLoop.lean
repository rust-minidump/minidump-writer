/-
  The loop of the list writers that fill a reserved array, as builder operations, and what it leaves in the buffer:

    fillLoop      an array of fixed-size records is reserved first; then, per element, its blobs are appended at the
                  end and its record — which carries the position of the blobs — is written into the array slot

  `fillLoop_spec` holds for every element list. The thread list (here), the link maps (Theorems/RefineMore.lean) and
  the thread names (Theorems/C15.lean) are `fillLoop` with their own way of appending a blob: each has a simulation
  lemma (`…_sim`) saying so, and takes its layout from `fillLoop_fresh`.
-/
import MdwModel.Theorems.Refine
namespace Mdw

/-- per element: append its blobs (the instance shows which builder operations do that), then
    `set_value_at(record, k)` where the record is computed from the position before the append -/
def fillLoop {α : Type} (rec : Nat → α → Bytes) (blob : α → Bytes) (arr : Arr) : Buf → Nat → List α → Option Buf
  | b, _, [] => some b
  | b, k, x :: xs =>
    match arr.setValueAt ⟨b.inner ++ blob x⟩ (rec b.len x) k with
    | some b2 => fillLoop rec blob arr b2 (k + 1) xs
    | none => none

theorem zeros_succ_mul (c n : Nat) : zeros (c * (n + 1)) = zeros c ++ zeros (c * n) := by
  show List.replicate _ _ = List.replicate _ _ ++ List.replicate _ _
  rw [List.replicate_append_replicate]; congr 1; rw [Nat.mul_succ]; omega

/-- the slot lemma without `rec`/`blob`: any `v` of the record size goes into the first still-zero slot -/
theorem fill_slot (c : Nat) (arr : Arr) (pre D S v : Bytes) (n k : Nat)
    (hpos : arr.position = pre.length) (hsz : arr.sz = c) (hD : D.length = c * k) (hv : v.length = c) :
    arr.setValueAt ⟨pre ++ D ++ zeros (c * (n + 1)) ++ S⟩ v k = some ⟨pre ++ (D ++ v) ++ zeros (c * n) ++ S⟩ := by
  have hk : arr.position + arr.sz * k = (pre ++ D).length := by rw [hpos, hsz, List.length_append, hD]
  have hB : pre ++ D ++ zeros (c * (n + 1)) ++ S = (pre ++ D) ++ zeros c ++ (zeros (c * n) ++ S) := by
    rw [zeros_succ_mul]; simp only [List.append_assoc]
  unfold Arr.setValueAt
  rw [hk, hB, Buf.writeAt_mid _ _ _ _ (by rw [zeros_length, hv])]
  simp only [List.append_assoc]

theorem fill_step {α : Type} (rec : Nat → α → Bytes) (blob : α → Bytes) (c : Nat) (hc : ∀ p x, (rec p x).length = c)
    (arr : Arr) (pre D S : Bytes) (x : α) (n k : Nat)
    (hpos : arr.position = pre.length) (hsz : arr.sz = c) (hD : D.length = c * k) :
    arr.setValueAt ⟨pre ++ D ++ zeros (c * (n + 1)) ++ S ++ blob x⟩ (rec (pre.length + D.length + c * (n + 1) + S.length) x) k =
      some ⟨pre ++ (D ++ rec (pre.length + D.length + c * (n + 1) + S.length) x) ++ zeros (c * n) ++ (S ++ blob x)⟩ := by
  rw [List.append_assoc _ S]
  exact fill_slot c arr pre D (S ++ blob x) _ n k hpos hsz hD (hc _ x)

/-- `fillLoop_spec` with the position the first blob goes to as a variable `P` (its value a hypothesis), so that the
    induction step has nothing to rewrite inside `recsGen` -/
theorem fillLoop_spec' {α : Type} (rec : Nat → α → Bytes) (blob : α → Bytes) (c : Nat) (hc : ∀ p x, (rec p x).length = c)
    (arr : Arr) (pre D S : Bytes) (xs : List α) (k P : Nat)
    (hpos : arr.position = pre.length) (hsz : arr.sz = c) (hD : D.length = c * k)
    (hP : P = pre.length + D.length + c * xs.length + S.length) :
    fillLoop rec blob arr ⟨pre ++ D ++ zeros (c * xs.length) ++ S⟩ k xs =
      some ⟨pre ++ D ++ recsGen rec (fun x => (blob x).length) P xs ++ S ++ xs.flatMap blob⟩ := by
  induction xs generalizing D S k P with
  | nil => simp [fillLoop, recsGen, zeros]
  | cons x r ih =>
    rw [List.length_cons] at hP
    have hlen : (⟨pre ++ D ++ zeros (c * (r.length + 1)) ++ S⟩ : Buf).len = P := by
      simp only [Buf.len, List.length_append, zeros_length, hP]
    have hrl := hc P x
    simp only [fillLoop, List.length_cons, hlen]
    rw [List.append_assoc _ S, fill_slot c arr pre D (S ++ blob x) (rec P x) r.length k hpos hsz hD hrl]
    simp only
    rw [ih (D ++ rec P x) (S ++ blob x) (k + 1) (P + (blob x).length)
      (by rw [List.length_append, hrl, hD, Nat.mul_succ])
      (by rw [Nat.mul_succ] at hP; simp only [List.length_append, hrl]; omega)]
    simp only [recsGen, List.flatMap_cons, List.append_assoc]

theorem fillLoop_spec {α : Type} (rec : Nat → α → Bytes) (blob : α → Bytes) (c : Nat) (hc : ∀ p x, (rec p x).length = c)
    (arr : Arr) (pre D S : Bytes) (xs : List α) (k : Nat)
    (hpos : arr.position = pre.length) (hsz : arr.sz = c) (hD : D.length = c * k) :
    fillLoop rec blob arr ⟨pre ++ D ++ zeros (c * xs.length) ++ S⟩ k xs =
      some ⟨pre ++ D ++ recsGen rec (fun x => (blob x).length) (pre.length + D.length + c * xs.length + S.length) xs ++
        S ++ xs.flatMap blob⟩ :=
  fillLoop_spec' rec blob c hc arr pre D S xs k _ hpos hsz hD rfl

theorem fillLoop_len_le {α : Type} (rec : Nat → α → Bytes) (blob : α → Bytes) (arr : Arr) (b b' : Buf) (k : Nat) (xs : List α)
    (h : fillLoop rec blob arr b k xs = some b') : b.len ≤ b'.len := by
  induction xs generalizing b k with
  | nil => cases h; exact Nat.le_refl _
  | cons x r ih =>
    simp only [fillLoop] at h
    cases hs : arr.setValueAt ⟨b.inner ++ blob x⟩ (rec b.len x) k with
    | none => rw [hs] at h; cases h
    | some b2 =>
      rw [hs] at h
      have h1 := Buf.writeAt_len_le _ _ _ _ hs
      have h2 := ih b2 (k + 1) h
      simp only [Buf.len, List.length_append] at h1 h2 ⊢
      omega

theorem fillLoop_fresh {α : Type} (rec : Nat → α → Bytes) (blob : α → Bytes) (c : Nat) (hc : ∀ p x, (rec p x).length = c)
    (arr : Arr) (pre : Bytes) (xs : List α) (hpos : arr.position = pre.length) (hsz : arr.sz = c) :
    fillLoop rec blob arr ⟨pre ++ zeros (c * xs.length)⟩ 0 xs =
      some ⟨pre ++ recsGen rec (fun x => (blob x).length) (pre.length + c * xs.length) xs ++ xs.flatMap blob⟩ := by
  have := fillLoop_spec' rec blob c hc arr pre [] [] xs 0 (pre.length + c * xs.length) hpos hsz rfl rfl
  simpa only [List.append_nil] using this

theorem fillLoop_cons {α : Type} {rec : Nat → α → Bytes} {blob : α → Bytes} {arr : Arr} {b b' : Buf} {k : Nat} {x : α}
    {xs : List α} (h : fillLoop rec blob arr b k (x :: xs) = some b') :
    ∃ b2, arr.setValueAt ⟨b.inner ++ blob x⟩ (rec b.len x) k = some b2 ∧ fillLoop rec blob arr b2 (k + 1) xs = some b' ∧
      b.len + (blob x).length ≤ b2.len ∧ b2.len ≤ b'.len := by
  rw [fillLoop] at h
  cases hs : arr.setValueAt ⟨b.inner ++ blob x⟩ (rec b.len x) k with
  | none => rw [hs] at h; cases h
  | some b2 =>
    rw [hs] at h
    exact ⟨b2, rfl, h, Buf.len_app b _ ▸ Buf.writeAt_len_le _ _ _ _ hs, fillLoop_len_le _ _ _ _ _ _ _ h⟩

def afterStack (b : Buf) (t : DThread) : Buf :=
  match t.stack with
  | some (_, bs) => b.writeAll bs
  | none => b

def afterWindow (b1 : Buf) (t : DThread) : Option (Buf × Nat) :=
  match t.window with
  | some (_, ws) => (Arr.allocFromArray b1 (ws.map (fun x => [x])) 1).map (fun r => (r.1, r.2.location.rva))
  | none => some (b1, b1.position)

/-- the appends of one thread as the code performs them: `write_all(stack)` (when a stack was captured),
    `alloc_from_array(window bytes)` (crash thread with a mapped instruction pointer), `alloc_with_val(context)`;
    returns the buffer and the positions the operations returned (of the stack, of the window, of the context), which
    are the ones the record stores -/
def opThreadAppend (b : Buf) (t : DThread) : Option (Buf × Nat × Nat × Nat) :=
  match afterWindow (afterStack b t) t with
  | none => none
  | some (b2, windowRva) =>
    match Slot.allocWithVal b2 t.ctx with
    | some (b3, s) => some (b3, b.position, windowRva, s.location.rva)
    | none => none

theorem flatten_singletons (ws : Bytes) : (ws.map (fun x => [x])).flatten = ws := by
  induction ws with
  | nil => rfl
  | cons a r ih => simp [ih]

theorem opThreadAppend_spec (b : Buf) (t : DThread) (hb : b.len + t.blob.length < 2 ^ 32) :
    opThreadAppend b t = some (⟨b.inner ++ t.blob⟩, b.len, b.len + t.stackLen, t.ctxRva b.len) := by
  have hbl : t.blob.length = t.stackBytes.length + t.windowBytes.length + t.ctx.length := by
    simp [DThread.blob, Nat.add_assoc]
  have e1 := t.stackBytes_length
  have e2 := t.windowBytes_length
  have h1 : afterStack b t = ⟨b.inner ++ t.stackBytes⟩ := by
    unfold afterStack DThread.stackBytes Buf.writeAll
    cases t.stack with
    | none => simp
    | some x => rfl
  have h2 : afterWindow ⟨b.inner ++ t.stackBytes⟩ t = some (⟨b.inner ++ t.stackBytes ++ t.windowBytes⟩, b.len + t.stackLen) := by
    unfold afterWindow
    cases hw : t.window with
    | none => simp [DThread.windowBytes, hw, Buf.position, Buf.len, e1]
    | some x =>
      obtain ⟨wa, ws⟩ := x
      have hwb : t.windowBytes = ws := by simp [DThread.windowBytes, hw]
      have hfit : (⟨b.inner ++ t.stackBytes⟩ : Buf).len + (ws.map (fun x => [x])).length * 1 < 2 ^ 32 := by
        rw [Buf.len_app, List.length_map, Nat.mul_one, ← hwb]; omega
      simp only [Arr.allocFromArray_eq _ _ 1 (List.forall_mem_map.mpr fun _ _ => rfl) hfit,
        Option.map_some, Arr.location, flatten_singletons, hwb, Buf.len_app, e1]
  have h3 : (⟨b.inner ++ t.stackBytes ++ t.windowBytes⟩ : Buf).len + t.ctx.length < 2 ^ 32 := by
    rw [Buf.len_app, Buf.len_app]; omega
  simp only [opThreadAppend, h1, h2, Slot.allocWithVal_eq _ _ h3, Slot.location_of_fit h3]
  simp [Buf.position, Buf.len, DThread.blob, DThread.ctxRva, e1, e2, Nat.add_assoc]

/-- the writer's state besides the buffer: `config.memory_blocks` and `config.crashing_thread_context` -/
structure WSt where
  blocks : List Desc
  ctc : CTC

/-- `thread_list_stream::write` as builder operations: count, reserved record array, then per thread the appends of
    `opThreadAppend`, the registration of its stack / window as memory blocks, the crashing-thread context for the
    blamed thread, and `set_value_at(record, idx)` -/
def opThreadLoop (blamed : Nat) (hasCrash : Bool) (arr : Arr) : Buf → Nat → List DThread → WSt → Option (Buf × WSt)
  | b, _, [], w => some (b, w)
  | b, k, t :: ts, w =>
    match opThreadAppend b t with
    | none => none
    | some (b1, stackRva, windowRva, ctxRva) =>
      let record :=
        le 4 t.tid ++ le 4 0 ++ le 4 0 ++ le 4 0 ++ le 8 0 ++
        le 8 (match t.stack with | some (s, _) => s | none => t.sp) ++ le 4 t.stackLen ++ le 4 stackRva ++
        le 4 t.ctx.length ++ le 4 ctxRva
      let blocks := w.blocks ++
        (match t.stack with | some (s, bs) => [⟨s, bs.length, stackRva⟩] | none => []) ++
        (match t.window with | some (s, ws) => [⟨s, ws.length, windowRva⟩] | none => [])
      let ctc := if t.tid = blamed then
          (if hasCrash then CTC.crashContext (t.ctx.length, ctxRva) else CTC.crashContextPlusAddress (t.ctx.length, ctxRva) t.ip)
        else w.ctc
      match arr.setValueAt b1 record k with
      | some b2 => opThreadLoop blamed hasCrash arr b2 (k + 1) ts ⟨blocks, ctc⟩
      | none => none

def opThreadList (blamed : Nat) (hasCrash : Bool) (b : Buf) (ts : List DThread) (w : WSt) : Option (Buf × DirEnt × WSt) :=
  match Slot.allocWithVal b (le 4 ts.length) with
  | none => none
  | some (b1, hdr) =>
    let (b2, arr) := Arr.allocArray b1 ts.length 48
    match opThreadLoop blamed hasCrash arr b2 0 ts w with
    | some (b3, w') => some (b3, ⟨ST_THREAD_LIST, hdr.location.size + arr.location.size, hdr.location.rva⟩, w')
    | none => none

theorem opThreadLoop_sim (blamed : Nat) (hasCrash : Bool) (arr : Arr) (b b' : Buf) (k : Nat) (ts : List DThread) (w : WSt)
    (hsz : arr.sz = 48) (hin : arr.position + 48 * (k + ts.length) ≤ b.len)
    (hfill : fillLoop threadRec DThread.blob arr b k ts = some b') (hsmall : b.len + (threadBlobs ts).length < 2 ^ 32) :
    opThreadLoop blamed hasCrash arr b k ts w =
      some (b', ⟨w.blocks ++ threadBlocksAt b.len ts, ctcAt blamed hasCrash b.len ts w.ctc⟩) := by
  induction ts generalizing b k w with
  | nil => cases hfill; simp [opThreadLoop, threadBlocksAt, ctcAt]
  | cons t r ih =>
    have hl : (threadBlobs (t :: r)).length = t.blob.length + (threadBlobs r).length := by simp [threadBlobs]
    rw [hl] at hsmall
    rw [List.length_cons] at hin
    obtain ⟨b2, hs, hfill, -, -⟩ := fillLoop_cons hfill
    -- the record fits its slot, so the buffer keeps the length the appends gave it
    have hlen2 : b2.len = b.len + t.blob.length := by
      rw [Arr.setValueAt_len (by rw [hsz, threadRec_length, Buf.len_app]; omega) hs, Buf.len_app]
    simp only [opThreadLoop, opThreadAppend_spec b t (by omega)]
    -- the record the code assembles from the returned positions is `threadRec b.len t` (by unfolding)
    show (match arr.setValueAt ⟨b.inner ++ t.blob⟩ (threadRec b.len t) k with
      | some b2 => opThreadLoop blamed hasCrash arr b2 (k + 1) r _ | none => none) = _
    rw [hs]
    simp only
    rw [ih b2 (k + 1) _ (by rw [hlen2]; omega) hfill (by rw [hlen2]; omega), hlen2]
    simp only [threadBlocksAt, ctcAt, List.append_assoc]
    rfl

/-- **Refinement (thread list).** `thread_list_stream::write`, as the builder operations it performs, appends exactly
    the thread-list stage of the image model, returns its directory entry, registers exactly the closed form's memory
    blocks and leaves exactly its crashing-thread context — for every thread list. -/
theorem Refine_thread_list (blamed : Nat) (hasCrash : Bool) (b : Buf) (ts : List DThread) (w : WSt)
    (hb : b.len + 4 + 48 * ts.length + (threadBlobs ts).length < 2 ^ 32) :
    opThreadList blamed hasCrash b ts w = some (⟨b.inner ++ threadListBody b.len ts⟩, ⟨ST_THREAD_LIST, 4 + 48 * ts.length, b.len⟩,
      ⟨w.blocks ++ threadBlocksAt (b.len + 4 + 48 * ts.length) ts, ctcAt blamed hasCrash (b.len + 4 + 48 * ts.length) ts w.ctc⟩) := by
  have h1 : b.len + (le 4 ts.length).length < 2 ^ 32 := by rw [le_length]; omega
  have h2 : (⟨b.inner ++ le 4 ts.length⟩ : Buf).len + ts.length * 48 < 2 ^ 32 := by
    rw [Buf.len_app, le_length]; omega
  have hloop := opThreadLoop_sim blamed hasCrash ⟨(⟨b.inner ++ le 4 ts.length⟩ : Buf).len, ts.length, 48⟩ _ _ 0 ts w rfl
    (by simp [Buf.len, zeros_length]; omega)
    (fillLoop_fresh threadRec DThread.blob 48 threadRec_length _ (b.inner ++ le 4 ts.length) ts rfl rfl)
    (by simp [Buf.len, zeros_length] at hb ⊢; omega)
  simp only [opThreadList, Slot.allocWithVal_eq b _ h1, Arr.allocArray_eq _ _ _ h2, Nat.mul_comm ts.length 48, hloop,
    Slot.location_of_fit h1, Arr.location_of_fit h2]
  simp [threadListBody, threadRecs_eq, threadBlobs, Buf.len, zeros_length, List.append_assoc, Nat.add_assoc, Nat.mul_comm]

end Mdw
