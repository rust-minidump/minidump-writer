/-
  C08 — The module list reflects the loaded ELF images
  (src/linux/sections/mappings.rs, maps_reader.rs, ptrace_dumper.rs)

  Over the model of the module-list logic (Model/Modules.lean); the ELF readers' answers are inputs
  (`Facts`; the readers themselves are C14's model), the aggregated mappings are C13's.

    C08_listed_iff            a target mapping is listed iff it is interesting, not wholly inside a caller-supplied
                              mapping, and its identifier (memory first, then file: C08_identifier_source) is
                              non-empty and not all zero;
                              the module then carries the mapping's start, size (its low 32 bits), that identifier
                              and the name rule (C08_listed_fields)
    C08_list_shape            the list = the listed target mappings in (swapped) order, then the caller's, verbatim
    C08_user_verbatim         base, size (low 32 bits), identifier of every caller-supplied mapping are what the
                              caller gave
    C08_swap_mem / _swap_length / C08_entry_first / _entry_first_contains   the swap adds no mapping (it is a
                              permutation: `swapEntry_perm`) and puts the
                              entry-point mapping first
    C08_entry_module_first    … so its module, when listed, is the first module
    C08_disjoint              modules derived from the target's map never overlap (from C13_sorted_disjoint)
    C08_no_duplicates         … and two of them with the same base are the same module (that no mapping is listed
                              twice, position by position, is `modules_pairwise`)
    C08_contained_suppressed  a mapping wholly inside a caller-supplied one is not listed
    C08_name_*                the name rule
-/
import MdwModel.Model.Modules
import MdwModel.Theorems.C13
import MdwModel.Theorems.DumperInit
namespace Mdw.Mod
open Mdw

variable (decode : Bytes → List Char)

theorem C08_listed_iff (users : List UserMap) (m : Mapping) (f : Facts) :
    (targetModule decode users m f).isSome ↔
      (isInteresting m = true ∧ isContainedIn m users = false ∧ idUsable (identifierOf f) = true) := by
  unfold targetModule
  by_cases h1 : isInteresting m = true <;> by_cases h2 : isContainedIn m users = true <;>
    by_cases h3 : idUsable (identifierOf f) = true <;> simp [h1, h2, h3]

theorem C08_listed_fields (users : List UserMap) (m : Mapping) (f : Facts) (md : Module)
    (h : targetModule decode users m f = some md) :
    md.base = m.start ∧ md.size = m.size % 2 ^ 32 ∧ md.ident = identifierOf f ∧
      md.name = effectivePath m (sonameOf f) := by
  unfold targetModule at h
  split at h
  · cases h
  · dsimp only at h
    split at h
    · cases h
    · cases h; simp [rawModule]

/-- the identifier: what the target's memory gives; the file only when memory gives nothing and the
    file may be opened -/
theorem C08_identifier_source (f : Facts) :
    (∀ v, f.idMem = some v → identifierOf f = v) ∧
    (f.idMem = none → f.fileOk = false → identifierOf f = []) ∧
    (f.idMem = none → f.fileOk = true → identifierOf f = f.idFile.getD []) := by
  refine ⟨?_, ?_, ?_⟩ <;> intros <;> simp_all [identifierOf]

theorem C08_list_shape (ms : List Mapping) (facts : Mapping → Facts) (us : UserMap → Option Bytes)
    (users : List UserMap) :
    moduleList decode ms facts us users =
      ms.filterMap (fun m => targetModule decode users m (facts m)) ++
      users.map (fun u => rawModule decode u.mapping u.ident (us u)) := rfl

theorem C08_user_verbatim (ms : List Mapping) (facts : Mapping → Facts) (us : UserMap → Option Bytes)
    (users : List UserMap) :
    ((moduleList decode ms facts us users).drop
        (ms.filterMap (fun m => targetModule decode users m (facts m))).length).map
      (fun md => (md.base, md.size, md.ident)) =
    users.map (fun u => (u.start, u.size % 2 ^ 32, u.ident)) := by
  unfold moduleList
  rw [List.drop_left]
  simp [rawModule, UserMap.mapping, Function.comp_def]

theorem C08_contained_suppressed (users : List UserMap) (m : Mapping) (f : Facts) (u : UserMap)
    (hu : u ∈ users) (h1 : u.start ≤ m.start) (h2 : m.start + m.size ≤ u.start + u.size) :
    targetModule decode users m f = none := by
  have : isContainedIn m users = true := List.any_eq_true.mpr ⟨u, hu, by simpa using ⟨h1, h2⟩⟩
  simp [targetModule, this]

theorem C08_swap_mem (ms : List Mapping) (entry : Option Nat) (x : Mapping) :
    x ∈ swapEntry ms entry → x ∈ ms :=
  (swapEntry_perm ms entry).mem_iff.1

theorem C08_swap_length (ms : List Mapping) (entry : Option Nat) : (swapEntry ms entry).length = ms.length :=
  (swapEntry_perm ms entry).length_eq

/-- the first mapping whose range contains the entry point is first after the swap -/
theorem C08_entry_first (ms : List Mapping) (e i : Nat) (mi : Mapping)
    (hidx : ms.findIdx? (fun m => m.start ≤ e && e < m.start + m.size) = some i) (hmi : ms[i]? = some mi) :
    (swapEntry ms (some e)).head? = some mi := by
  have hi : i < ms.length := (List.getElem?_eq_some_iff.mp hmi).1
  unfold swapEntry
  simp only [hidx]
  cases i with
  | zero => exact List.head?_eq_getElem?.trans hmi
  | succ i =>
    simp only [hmi, List.getElem?_eq_getElem (Nat.zero_lt_of_lt hi)]
    rw [List.head?_eq_getElem?, List.getElem?_set_ne (by omega), List.getElem?_set_self (Nat.zero_lt_of_lt hi)]

/-- … and contains it -/
theorem C08_entry_first_contains (ms : List Mapping) (e i : Nat) (mi : Mapping)
    (hidx : ms.findIdx? (fun m => m.start ≤ e && e < m.start + m.size) = some i) (hmi : ms[i]? = some mi) :
    mi.start ≤ e ∧ e < mi.start + mi.size := by
  obtain ⟨hlt, hp, _⟩ := List.findIdx?_eq_some_iff_getElem.mp hidx
  rw [(List.getElem?_eq_some_iff.mp hmi).2] at hp
  simpa using hp

/-- when the entry-point mapping is listed at all, its module is the first module -/
theorem C08_entry_module_first (ms : List Mapping) (facts : Mapping → Facts) (us : UserMap → Option Bytes)
    (users : List UserMap) (e i : Nat) (mi : Mapping) (md : Module)
    (hidx : ms.findIdx? (fun m => m.start ≤ e && e < m.start + m.size) = some i) (hmi : ms[i]? = some mi)
    (hl : targetModule decode users mi (facts mi) = some md) :
    (moduleList decode (swapEntry ms (some e)) facts us users).head? = some md := by
  obtain ⟨xs, hs⟩ := List.head?_eq_some_iff.mp (C08_entry_first ms e i mi hidx hmi)
  simp [moduleList, hs, hl]

def rangesDisjoint (a b : Module) : Prop := a.base + a.size ≤ b.base ∨ b.base + b.size ≤ a.base

theorem modules_pairwise (gate : Option Nat) (ls : List MLine) (hok : linesOk ls = true) (entry : Option Nat)
    (facts : Mapping → Facts) (users : List UserMap) :
    ((swapEntry (aggregate gate ls) entry).filterMap (fun m => targetModule decode users m (facts m))).Pairwise
      (fun a b => rangesDisjoint a b ∧ a.base ≠ b.base) := by
  obtain ⟨hasc, hpos⟩ := (sortedDisjoint_iff _).mp (C13_sorted_disjoint gate ls hok)
  -- stated symmetrically, so that it survives the swap
  have h1 : (aggregate gate ls).Pairwise (fun x y =>
      (x.end_ ≤ y.start ∨ y.end_ ≤ x.start) ∧ 0 < x.size ∧ 0 < y.size) :=
    hasc.imp_of_mem (fun hx hy h => ⟨.inl h, hpos _ hx, hpos _ hy⟩)
  have h2 := (swapEntry_perm (aggregate gate ls) entry).symm.pairwise h1
    (fun h => ⟨h.1.symm, h.2.2, h.2.1⟩)
  refine h2.filterMap _ (fun ma mb h a hta b htb => ?_)
  obtain ⟨fa1, fa2, _, _⟩ := C08_listed_fields decode users ma (facts ma) a hta
  obtain ⟨fb1, fb2, _, _⟩ := C08_listed_fields decode users mb (facts mb) b htb
  -- all that is needed of a module's size; the remainder itself would only slow `omega` down
  replace fa2 : a.size ≤ ma.size := fa2 ▸ Nat.mod_le ..
  replace fb2 : b.size ≤ mb.size := fb2 ▸ Nat.mod_le ..
  unfold rangesDisjoint
  unfold Mapping.end_ at h
  omega

/-- Modules derived from the target's memory map never overlap: whatever the entry point, the
    readers' answers and the caller's list. -/
theorem C08_disjoint (gate : Option Nat) (ls : List MLine) (hok : linesOk ls = true) (entry : Option Nat)
    (facts : Mapping → Facts) (users : List UserMap) (a b : Module)
    (ha : a ∈ (swapEntry (aggregate gate ls) entry).filterMap (fun m => targetModule decode users m (facts m)))
    (hb : b ∈ (swapEntry (aggregate gate ls) entry).filterMap (fun m => targetModule decode users m (facts m)))
    (hne : a ≠ b) : rangesDisjoint a b :=
  (pairwise_rel_of_ne (modules_pairwise decode gate ls hok entry facts users)
    (fun h => ⟨h.1.symm, h.2.symm⟩) ha hb hne).1

/-- … and two of them with the same base are the same module (`modules_pairwise` says it of list positions) -/
theorem C08_no_duplicates (gate : Option Nat) (ls : List MLine) (hok : linesOk ls = true) (entry : Option Nat)
    (facts : Mapping → Facts) (users : List UserMap) (a b : Module)
    (ha : a ∈ (swapEntry (aggregate gate ls) entry).filterMap (fun m => targetModule decode users m (facts m)))
    (hb : b ∈ (swapEntry (aggregate gate ls) entry).filterMap (fun m => targetModule decode users m (facts m)))
    (hbase : a.base = b.base) : a = b :=
  Classical.byContradiction fun hne =>
    (pairwise_rel_of_ne (modules_pairwise decode gate ls hok entry facts users)
      (fun h => ⟨h.1.symm, h.2.symm⟩) ha hb hne).2 hbase

theorem C08_name_no_soname (m : Mapping) : effectivePath m none = m.name.getD [] := rfl

theorem pathPush_sep {p n : Bytes} (hp : p ≠ []) (hps : p.getLast? ≠ some SLASH) (hns : n.head? ≠ some SLASH) :
    pathPush p n = p ++ [SLASH] ++ n := by
  simp [pathPush, hns, hps, hp]

/-- an executable mapped from a non-zero offset (an archive): the SONAME is appended -/
theorem C08_name_append (m : Mapping) (p n : Bytes) (hn : m.name = some p) (hx : m.isExec = true) (ho : m.offset ≠ 0)
    (hp : p ≠ []) (hps : p.getLast? ≠ some SLASH) (hns : n.head? ≠ some SLASH) :
    effectivePath m (some n) = p ++ [SLASH] ++ n := by
  unfold effectivePath
  simp only [hn, Option.getD_some, hx, Bool.true_and, bne_iff_ne, ne_eq, ho, not_false_eq_true, ↓reduceIte]
  exact pathPush_sep hp hps hns

theorem stripTrailing_slashes (l : Bytes) {x : UInt8} (hx : x ≠ SLASH) (t : Bytes) (ht : ∀ c ∈ t, c = SLASH) :
    stripTrailing (l ++ [x] ++ t) = l ++ [x] := by
  unfold stripTrailing
  split
  · next h => simp at h
  · have hr : (l ++ [x] ++ t).reverse = t.reverse ++ x :: l.reverse := by simp
    rw [hr, List.dropWhile_append_of_pos (fun c hc => by simpa using ht c (List.mem_reverse.mp hc)),
      List.dropWhile_cons_of_neg (by simpa using hx)]
    simp

theorem afterLastSlash_append (pre base : Bytes) (hb : SLASH ∉ base) :
    afterLastSlash (pre ++ [SLASH] ++ base) = base := by
  unfold afterLastSlash
  have hr : (pre ++ [SLASH] ++ base).reverse = base.reverse ++ (SLASH :: pre.reverse) := by simp
  rw [hr, List.takeWhile_append_of_pos fun a ha => by
    simpa using fun h : a = SLASH => hb (h ▸ List.mem_reverse.mp ha)]
  simp

/-- `hdots`: of a path that ends in `..` `Path::file_name` is `None`. -/
theorem fileName_pathPop (pre file : Bytes) {x : UInt8} (hl : file.getLast? = some x) (hx : x ≠ SLASH)
    (hs : SLASH ∉ file) (hdots : file ≠ [46, 46]) :
    fileName (pre ++ [SLASH] ++ file) = some file ∧
      pathPop (pre ++ [SLASH] ++ file) =
        if (pre ++ [SLASH]).length ≤ 1 then pre ++ [SLASH] else stripTrailing (pre ++ [SLASH]) := by
  obtain ⟨ys, rfl⟩ := List.getLast?_eq_some_iff.mp hl
  have hstrip : stripTrailing (pre ++ [SLASH] ++ (ys ++ [x])) = pre ++ [SLASH] ++ (ys ++ [x]) := by
    simpa using stripTrailing_slashes (pre ++ [SLASH] ++ ys) hx [] (by simp)
  have hafter := afterLastSlash_append pre (ys ++ [x]) hs
  constructor
  · unfold fileName
    simp only [hstrip, hafter]
    simp [hdots]
  · unfold pathPop
    simp only [hstrip, hafter]
    rw [List.length_append (as := pre ++ [SLASH]), Nat.add_sub_cancel, List.take_left' rfl]

/-- otherwise the SONAME replaces the last component of the mapped path -/
theorem C08_name_replace (m : Mapping) (dir : Bytes) (d b : UInt8) (base n : Bytes)
    (hn : m.name = some (dir ++ [d] ++ [SLASH] ++ (base ++ [b])))
    (hnx : (m.isExec && m.offset != 0) = false)
    (hd : d ≠ SLASH) (hb : b ≠ SLASH) (hbase : SLASH ∉ base) (hdots : base ++ [b] ≠ [46, 46])
    (hns : n.head? ≠ some SLASH) :
    effectivePath m (some n) = dir ++ [d] ++ [SLASH] ++ n := by
  obtain ⟨hfile, hpop⟩ := fileName_pathPop (dir ++ [d]) (base ++ [b]) (by simp) hb
    (by simp [hbase, hb.symm]) hdots
  rw [if_neg (by simp), stripTrailing_slashes dir hd [SLASH] (by simp)] at hpop
  unfold effectivePath setFileName
  simp only [hn, Option.getD_some, hnx, Bool.false_eq_true, ↓reduceIte, hfile, Option.isSome_some, hpop]
  exact pathPush_sep (by simp) (by simpa using hd) hns

-- "/usr/lib/libfoo.so.1.2" + SONAME "libfoo.so.1" → "/usr/lib/libfoo.so.1"
example : effectivePath ⟨0x1000, 0x2000, 0x1000, 0x3000, 0, 5, some [47, 117, 115, 114, 47, 108, 105, 98, 47, 108, 105, 98, 102, 111, 111, 46, 115, 111, 46, 49, 46, 50]⟩
    (some [108, 105, 98, 102, 111, 111, 46, 115, 111, 46, 49]) = [47, 117, 115, 114, 47, 108, 105, 98, 47, 108, 105, 98, 102, 111, 111, 46, 115, 111, 46, 49] := by decide
-- "/data/app.apk" executable at offset 0x1000 + SONAME "libname.so" → "/data/app.apk/libname.so"
example : effectivePath ⟨0x1000, 0x2000, 0x1000, 0x3000, 0x1000, 5, some [47, 100, 97, 116, 97, 47, 97, 112, 112, 46, 97, 112, 107]⟩
    (some [108, 105, 98, 110, 97, 109, 101, 46, 115, 111]) = [47, 100, 97, 116, 97, 47, 97, 112, 112, 46, 97, 112, 107, 47, 108, 105, 98, 110, 97, 109, 101, 46, 115, 111] := by decide
-- "linux-gate.so" + SONAME "linux-vdso.so.1" → "linux-vdso.so.1"
example : effectivePath ⟨0x1000, 0x2000, 0x1000, 0x3000, 0, 5, some [108, 105, 110, 117, 120, 45, 103, 97, 116, 101, 46, 115, 111]⟩
    (some [108, 105, 110, 117, 120, 45, 118, 100, 115, 111, 46, 115, 111, 46, 49]) = [108, 105, 110, 117, 120, 45, 118, 100, 115, 111, 46, 115, 111, 46, 49] := by decide
-- "/libroot.so" + SONAME "x" → "/x"
example : effectivePath ⟨0x1000, 0x2000, 0x1000, 0x3000, 0, 5, some [47, 108, 105, 98, 114, 111, 111, 116, 46, 115, 111]⟩
    (some [120]) = [47, 120] := by decide

end Mdw.Mod
