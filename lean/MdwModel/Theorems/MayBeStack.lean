/- Which mapping can hold a stack for `get_stack_info`: one that is readable *or* writable. A read-only mapping that
   contains the stack pointer is therefore the stack's mapping — the walk for "the stack pointer is in a guard page"
   starts only from mappings without both permissions. The model says `isReadable || isWritable`; that the code's test
   is `intersects(READ | WRITE)` is a regenerated source fact (`Src.mayBeStackIntersects`; false under the seed C06_r19,
   which requires both with `contains`). -/
import MdwModel.Model.Stack
import MdwModel.Generated.Source
namespace Mdw

theorem MayBeStack_source_agrees : Src.mayBeStackIntersects = none ∨ Src.mayBeStackIntersects = some true := by decide

theorem MayBeStack_iff (m : Mapping) : mayBeStack (some m) = true ↔ (m.isReadable = true ∨ m.isWritable = true) := by
  simp [mayBeStack]

/-- a mapping that can only be read can hold a stack; so can one that can only be written; no mapping cannot -/
theorem MayBeStack_read_only (m : Mapping) (h : m.isReadable = true) : mayBeStack (some m) = true :=
  (MayBeStack_iff m).2 (.inl h)

theorem MayBeStack_write_only (m : Mapping) (h : m.isWritable = true) : mayBeStack (some m) = true :=
  (MayBeStack_iff m).2 (.inr h)

theorem MayBeStack_none : mayBeStack none = false := rfl

end Mdw
