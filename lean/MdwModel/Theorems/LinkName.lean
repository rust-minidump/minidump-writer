/- The names of the linker debug stream: each object's name is read through *its own* `l_name`, and an object whose
   `l_name` is NULL has the empty name — it does not inherit anything from the object before it. In the model the name
   is a function of the entry alone; that the code starts every entry with a fresh, empty name is a regenerated source
   fact (`Src.linkNameFresh`; false under the seed C18_r18, which hoists the buffer out of the loop). -/
import MdwModel.Model.Info
import MdwModel.Generated.Source
namespace Mdw

theorem LinkName_source_agrees : Src.linkNameFresh = none ∨ Src.linkNameFresh = some true := by decide

/-- the name recorded for one object: empty for a NULL pointer, otherwise what the reader returns for the string at
    `l_name` (256 bytes cut at the first NUL and decoded: the reader's business) — or the request's linker step fails -/
def linkName (rd : Nat → Option Bytes) (lm : LinkMap) : Option Bytes :=
  if lm.name = 0 then some [] else rd lm.name

/-- the names of all objects, in list order; the first unreadable name fails the step -/
def linkNames (rd : Nat → Option Bytes) : List LinkMap → Option (List Bytes)
  | [] => some []
  | lm :: rest =>
    match linkName rd lm, linkNames rd rest with
    | some n, some ns => some (n :: ns)
    | _, _ => none

theorem LinkName_null (rd : Nat → Option Bytes) (lm : LinkMap) (h : lm.name = 0) : linkName rd lm = some [] := by
  simp [linkName, h]

/-- position by position: the j-th name is the j-th object's, whatever the objects before it are called -/
theorem LinkName_get (rd : Nat → Option Bytes) (lms : List LinkMap) (ns : List Bytes) (h : linkNames rd lms = some ns) :
    ns.length = lms.length ∧ ∀ (j : Nat) (lm : LinkMap), lms[j]? = some lm → (ns[j]?) = linkName rd lm := by
  induction lms generalizing ns with
  | nil =>
    cases h
    exact ⟨rfl, fun j lm hj => by simp at hj⟩
  | cons x rest ih =>
    unfold linkNames at h
    split at h
    · rename_i n ns' hx hr
      cases h
      obtain ⟨hl, hg⟩ := ih ns' hr
      refine ⟨congrArg (· + 1) hl, fun j lm hj => ?_⟩
      cases j with
      | zero =>
        cases hj
        exact hx.symm
      | succ j => exact hg j lm hj
    · cases h

/-- an object with a NULL name behind a named one has the empty name -/
example : linkNames (fun a => if a = 100 then some [47, 97] else none) [⟨1, 100, 2, 0⟩, ⟨3, 0, 4, 0⟩] = some [[47, 97], []] := by
  decide

end Mdw
