/-
  Obligations over the facts regenerated from /repo's source on every run
  (MdwModel/Generated/Source.lean).  All closed by `decide`, i.e. re-proved against what the code
  says now.  Stated at the strength the properties need and no stronger.
-/
import MdwModel.Generated.Source
import MdwModel.Model.Stack
import MdwModel.Model.Maps
namespace Mdw

open Src in
/-- the directory has room for every entry that is ever published (C01, C10) -/
theorem plan_entries_fit : (plan.filter (·.publishes)).length ≤ numWriters := by decide

open Src in
/-- published stream types are pairwise distinct and non-zero (C01) -/
theorem plan_types_distinct :
    ((plan.filter (·.publishes)).map (·.streamType)).Nodup ∧
    ∀ s ∈ plan.filter (·.publishes), s.streamType ≠ 0 := by decide

open Src in
/-- header and empty directory are flushed first, without an entry (C10) -/
theorem plan_header_first : (plan.head?.map (fun s => (s.kind, s.publishes))) = some (0, false) := by decide

open Src in
/-- no step that reads the target's memory or registers runs after the threads were resumed (C04). The order of the
    steps and the position of `resume_threads` are read from the source; which writers read the target is the
    extractor's own table (`READS_TARGET`, gen/extract.py) -/
theorem plan_no_target_read_after_resume : (plan.drop resumeIndex).all (fun s => !s.readsTarget) = true := by decide

open Src in
/-- the index of `resume_threads` lies within the plan -/
theorem plan_resume_reached : resumeIndex ≤ plan.length := by decide

open Src in
/-- the steps the statement of C11 lists as best-effort (the raw files, the linker data, the handle data, the
    soft-error stream: kind ≥ 2) are soft -/
theorem plan_best_effort_soft :
    ∀ s ∈ plan, s.kind ≥ 2 → s.soft = true := by decide

open Src in
/-- the soft-error stream is the last step, is published, and comes after the resume (C11) -/
theorem plan_soft_errors_last :
    (plan.getLast?.map (fun s => (s.kind, s.publishes))) = some (5, true) ∧
    resumeIndex + 1 = plan.length := by decide

/-- the source's literals are the models' named constants; the last seven are compared with numbers written here, which
    the models repeat inline -/
theorem consts_agree :
    Src.limitAverageThreadStackLength = LIMIT_AVERAGE_THREAD_STACK_LENGTH ∧
    Src.limitBaseThreadCount = LIMIT_BASE_THREAD_COUNT ∧
    Src.limitMaxExtraThreadStackLen = LIMIT_MAX_EXTRA_THREAD_STACK_LEN ∧
    Src.limitMinidumpFudgeFactor = LIMIT_MINIDUMP_FUDGE_FACTOR ∧
    Src.guardDistance = GUARD_DISTANCE ∧
    Src.defaced = DEFACED ∧
    Src.testBits = 11 ∧ Src.prefilterShift = 21 ∧ Src.smallIntMagnitude = 4096 ∧
    Src.ipMemorySize = 256 ∧ Src.interestingMinSize = 4096 ∧ Src.dsoNameRead = 256 ∧
    Src.deletedSuffix = DELETED_SUFFIX ∧ Src.linuxGateName = LINUX_GATE ∧
    Src.devPrefix = [47, 100, 101, 118, 47] := by decide

end Mdw
