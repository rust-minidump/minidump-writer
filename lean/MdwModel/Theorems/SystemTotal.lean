/-
  The gathering core never panics and never runs out of fuel: for every target state whose layout satisfies
  `LayoutOk`, every configuration and every answer of the reader, `gatherStack`, `gatherThread`, `gatherThreads`,
  `gatherApp` and `gatherDump` end with a result or with an error return (C02 for the request-as-one-function:
  hostile layouts, stack pointers anywhere in the 64-bit range, any read failing or coming back short). Composes
  `C12_total` (sanitization under the aggregation invariant) with `C06_region_sound` (a returned region starts inside
  a mapping, which bounds the offset handed to the sanitizer).
  Nothing is needed of `get_stack_info` itself: `gatherStack` turns every outcome of `getStackInfo` other than a region
  into "no stack recorded"; that the walk ends within its fuel without overflow is `C06_total`.
-/
import MdwModel.Theorems.System
namespace Mdw

/-- what the layout has to satisfy: the aggregation invariants (C13) and no mapping in the first eight bytes of the
    address space (the sanitizer computes `offset + 7` for the offset `sp − start` of the stack pointer in the copy;
    with `start ≥ 8` that stays below 2^64 for every 64-bit `sp`) -/
structure LayoutOk (ms : List Mapping) (page : Nat) : Prop where
  page_pos : 0 < page
  wf : WfMaps ms
  low : ∀ m ∈ ms, 8 ≤ m.start

/-- **No panic in the stack gathering.** -/
theorem gatherStack_settled (env : GEnv) (cfg : GCfg) (idx n currPos : Nat) (isCrash : Bool) (sp ip : Nat)
    (hl : LayoutOk env.ms env.page) (hsp : sp < 2 ^ 64) :
    (gatherStack env cfg idx n currPos isCrash sp ip).settled := by
  rw [gatherStack_eq]
  split
  · rename_i v l hgs
    split
    · trivial
    · -- sanitization: total under the layout invariant, the offset being below the stack pointer
      obtain ⟨m, hm, _, hmv, _, _⟩ := C06_region_sound env.ms env.page sp v l hl.page_pos hl.wf.hullOk hgs
      have hge : v ≤ (stackRegion cfg idx n currPos isCrash v l sp).1 := capRegion_ge _ _ _ _
      have h8 := hl.low m hm
      -- `sp − start + 7 < 2^64` from `8 ≤ m.start ≤ v ≤ start`
      exact recordStack_settled fun _ => Outcome.settled_of_isOk (C12_total env.ms _ sp _ ⟨hl.wf, by omega⟩)
  · trivial

theorem gatherWindow_settled (env : GEnv) (ip : Nat) : (gatherWindow env ip).settled := by
  unfold gatherWindow
  split
  · trivial
  · split <;> trivial

/-- **No panic per thread.** -/
theorem gatherThread_settled (env : GEnv) (cfg : GCfg) (crash : Option CrashIn) (blamed idx n currPos : Nat) (t : TInfo)
    (hl : LayoutOk env.ms env.page) (hsp : t.sp < 2 ^ 64) (hcsp : ∀ c, crash = some c → c.sp < 2 ^ 64) :
    (gatherThread env cfg crash blamed idx n currPos t).settled := by
  rcases blamed_or_other crash blamed t with ⟨c, rfl, hb⟩ | hb
  · rw [gatherThread_blamed hb]
    exact Outcome.settled_bind (gatherStack_settled env cfg idx n currPos true c.sp c.ip hl (hcsp c rfl)) fun _ _ =>
      Outcome.settled_bind (gatherWindow_settled env c.ip) fun _ _ => trivial
  · rw [gatherThread_other hb]
    exact Outcome.settled_bind (gatherStack_settled env cfg idx n currPos false t.sp t.ip hl hsp) fun _ _ => trivial

theorem gatherThreadsFrom_settled (env : GEnv) (cfg : GCfg) (crash : Option CrashIn) (blamed n currPos : Nat)
    (ts : List TInfo) (i0 : Nat) (hl : LayoutOk env.ms env.page) (hsp : ∀ t ∈ ts, t.sp < 2 ^ 64)
    (hcsp : ∀ c, crash = some c → c.sp < 2 ^ 64) :
    (gatherThreadsFrom env cfg crash blamed n currPos i0 ts).settled := by
  rw [gatherThreadsFrom_eq]
  exact Outcome.forIdx_settled i0 fun i t ht => gatherThread_settled env cfg crash blamed i n currPos t hl (hsp t ht) hcsp

theorem gatherApp_settled (mem : TMem) (app : List (Nat × Nat)) : (gatherApp mem app).settled := by
  rw [gatherApp_eq mem app 0]
  exact Outcome.forIdx_settled 0 fun _ r _ => by split <;> trivial

/-- **The request never panics (C02, for the request as one function).** Whatever the target looks like — any layout
    that satisfies the aggregation invariants, stack and instruction pointers anywhere, any memory contents and page
    protections, any configuration — the gathering ends with the content of a dump or with an error return. -/
theorem System_settled (s : SysState) (r : Request) (hl : LayoutOk s.ms s.page)
    (hsp : ∀ t ∈ s.threads, t.sp < 2 ^ 64) (hcsp : ∀ ci c, r.crash = some (ci, c) → c.sp < 2 ^ 64) :
    (gatherDump s r).settled ∧ (systemDump s r).settled := by
  have h1 : (gatherThreads s.env r.cfg (r.crash.map (·.2)) r.blamed s.numWriters s.threads).settled := by
    refine gatherThreadsFrom_settled _ _ _ _ _ _ _ _ hl hsp fun c hc => ?_
    obtain ⟨⟨ci, c'⟩, hcr, rfl⟩ := Option.map_eq_some_iff.mp hc
    exact hcsp ci c' hcr
  have hg : (gatherDump s r).settled := by
    rw [gatherDump_eq]
    exact Outcome.settled_bind h1 fun _ _ => Outcome.settled_bind (gatherApp_settled s.mem r.app) fun _ _ => trivial
  refine ⟨hg, ?_⟩
  rw [systemDump_eq]
  exact Outcome.settled_bind hg fun _ _ => trivial

/-- Non-vacuity: the example target of Theorems/System.lean satisfies the layout hypothesis. -/
example : LayoutOk sysExample.ms sysExample.page := by
  refine ⟨by decide, ⟨by decide, ?_⟩, by decide⟩
  intro a ha b hb w h1 h2
  simp only [sysExample, List.mem_cons, List.mem_nil_iff, or_false] at ha hb
  rcases ha with rfl | rfl <;> rcases hb with rfl | rfl <;>
    first | rfl | (simp only [Mapping.containsAddress, Bool.and_eq_true, decide_eq_true_eq] at h1 h2; omega)

end Mdw
