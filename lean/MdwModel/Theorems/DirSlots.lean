/- The directory is a reserved array of 12-byte slots, filled in the order the entries are handed over: an entry
   handed to `write_to_file` goes to the slot under the cursor and the cursor moves on, *whatever the entry contains* —
   the unused entry (a stream that failed softly) takes its slot like any other. In the model (`dumpDirEntry`,
   Model/DirSection.lean) the slot cursor advances on every path that gets as far as the destination's position — in
   the code the two `?` in front of `curr_idx += 1` (`set_value_at`, `stream_position`). That `dump_dir_entry` begins
   with `set_value_at(buffer, dirent, curr_idx)?` and has no `return` is a regenerated source fact
   (`Src.dirEntryAlwaysAdvances`; false under the seeds C16_r20 and C10_r19, which return early for all-zero entries). -/
import MdwModel.Theorems.FlushOrder
import MdwModel.Generated.Source
namespace Mdw

theorem DirSlots_source_agrees : Src.dirEntryAlwaysAdvances = none ∨ Src.dirEntryAlwaysAdvances = some true := by decide

/-- a completed `dump_dir_entry` has put the entry's bytes into the slot the cursor pointed at and moved the cursor on
    by one — for every entry -/
theorem DirSlots_entry (sc : Script) (s s' : DS) (e : Bytes) (h : dumpDirEntry sc s e = some (s', true)) :
    s'.dir.currIdx = s.dir.currIdx + 1 ∧ s.dir.sec.setValueAt s.buf e s.dir.currIdx = some s'.buf := by
  unfold dumpDirEntry at h
  cases hb : s.dir.sec.setValueAt s.buf e s.dir.currIdx with
  | none => rw [hb] at h; cases h
  | some b1 =>
    cases hc : (s.dest.streamPosition sc).2 with
    | none => simp only [hb, hc] at h; cases h
    | some cur =>
      cases hl : s.dir.sec.locationOfIndex s.dir.currIdx with
      | none => simp only [hb, hc, hl] at h; cases h
      | some loc =>
        simp only [hb, hc, hl] at h
        split at h
        · cases h
        split at h
        · cases h
        split at h
        · cases h
        obtain ⟨rfl, -⟩ := Prod.mk.inj (Option.some.inj h)
        exact ⟨rfl, rfl⟩

/-- the same through `write_to_file` -/
theorem DirSlots_flush (sc : Script) (s s' : DS) (e : Bytes) (h : writeToFile sc s (some e) = some (s', true)) :
    s'.dir.currIdx = s.dir.currIdx + 1 ∧ s.dir.sec.setValueAt s.buf e s.dir.currIdx = some s'.buf := by
  by_cases hle : s.dir.lastWritten > s.buf.len
  · rw [writeToFile, if_pos hle] at h; cases h
  · cases hf : (s.dest.writeAll sc (s.buf.inner.drop s.dir.lastWritten)).2 with
    | false => rw [FlushOrder_failed_flush sc s e hle hf] at h; cases h
    | true => rw [FlushOrder_then_entry sc s e hle hf] at h; exact DirSlots_entry sc ⟨s.buf, _, { s.dir with lastWritten := s.buf.len }⟩ s' e h

end Mdw
