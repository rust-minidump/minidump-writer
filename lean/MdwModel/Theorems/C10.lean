/-
  C10 — Every prefix of the output is a consistent truncated minidump
        (src/dir_section.rs, order of publication in `write_to_file`)

  Granularity: the destination's trait-level calls, each atomic (scripts without short writes:
  a `write` either stores all its bytes or fails without effect — the behaviour of `File` and
  `Cursor`; torn writes are the subject of C09's failure post-condition).

  Ghost: `pub` = for every directory entry published so far, the length the image had when the
  entry was published.  The stream writers guarantee (C01) that an entry and everything it
  references lie inside the image as built at that moment, i.e. below that length.

    C10_flush      every destination state after a completed call inside `write_to_file(Some(entry))` mirrors,
                   on a prefix [0, L), either the image before the operation or the image with
                   the new entry; L covers the header, the whole directory and the publication
                   bound of every entry visible in that image version.
    C10_unfixed_counterexample   the pre-repair order (entry first) violates it.
-/
import MdwModel.Theorems.C09
namespace Mdw

def NoShort (sc : Script) : Prop := ∀ k m, sc k ≠ .short m

def Mirrors (content : Bytes) (start : Nat) (v : Bytes) (L : Nat) : Prop :=
  ∀ i, i < L → content[start + i]? = v[i]?

/-- A destination snapshot is a consistent truncated dump of image version `v` whose published
    entries have closure bounds `pub`: some prefix `[0, L)` of `v` is present that contains the
    header + directory (`dirEnd`) and everything any published entry refers to. -/
def SnapshotOK (content : Bytes) (start : Nat) (v : Bytes) (dirEnd : Nat) (pub : List Nat) : Prop :=
  ∃ L, Mirrors content start v L ∧ dirEnd ≤ L ∧ ∀ b ∈ pub, b ≤ L

theorem Dest.writeAll_noshort {sc : Script} (hns : NoShort sc) (d : Dest) (bs : Bytes) (h : d.pos ≤ d.content.length) :
    (d.writeAll sc bs).1.content = if (d.writeAll sc bs).2 then splice d.content d.pos bs else d.content := by
  unfold Dest.writeAll
  cases bs with
  | nil => exact (splice_nil _ _).symm
  | cons b bs =>
    cases hsc : sc d.calls with
    | ok => rw [Dest.writeAllFuel_ok _ b bs hsc]; exact Dest.put_splice d _ h
    | fail => rw [Dest.writeAllFuel_fail _ b bs (.inl hsc)]; rfl
    | short m => exact absurd hsc (hns _ _)

theorem dirEntryStates_content {sc : Script} (hns : NoShort sc) (s : DS) (e b1 : Bytes) (P n : Nat)
    (hset : s.dir.sec.setValueAt s.buf e s.dir.currIdx = some ⟨b1⟩)
    (hloc : s.dir.sec.locationOfIndex s.dir.currIdx = some ⟨n, P⟩)
    (hSP : s.dir.startOff + P ≤ s.dest.content.length) :
    ∀ d ∈ dirEntryStates sc s e, d.content = s.dest.content ∨
      d.content = splice s.dest.content (s.dir.startOff + P) ((b1.drop P).take n) := by
  intro d hd
  unfold dirEntryStates at hd
  simp only [hset, hloc, Dest.streamPosition_eq, Dest.seek_eq] at hd
  rcases List.mem_cons.mp hd with rfl | hd
  · exact .inl rfl
  by_cases hf1 : sc s.dest.calls = .fail
  · simp [hf1] at hd
  simp only [hf1, if_false] at hd
  by_cases hf2 : sc (s.dest.calls + 1) = .fail
  · simp only [hf2, if_true, Bool.not_false, List.mem_singleton] at hd
    subst hd; exact .inl rfl
  simp only [hf2, if_false, Bool.not_true, Bool.false_eq_true] at hd
  rcases List.mem_cons.mp hd with rfl | hd
  · exact .inl rfl
  split at hd
  · cases hd
  have hw := Dest.writeAll_noshort hns
    { s.dest with pos := s.dir.startOff + P, calls := s.dest.calls + 1 + 1 } ((b1.drop P).take n) hSP
  generalize ({ s.dest with pos := s.dir.startOff + P, calls := s.dest.calls + 1 + 1 } : Dest).writeAll sc
    ((b1.drop P).take n) = r at hw hd
  obtain ⟨d3, ok3⟩ := r
  have hd3 : d3.content = s.dest.content ∨
      d3.content = splice s.dest.content (s.dir.startOff + P) ((b1.drop P).take n) := by
    cases ok3
    · exact .inl hw
    · exact .inr hw
  rcases List.mem_cons.mp hd with rfl | hd
  · exact hd3
  cases ok3 with
  | false => cases hd
  | true =>
    simp only [Bool.not_true, Bool.false_eq_true, if_false, List.mem_singleton] at hd
    subst hd
    split <;> exact hd3

theorem Mirrors.of_splice {c0 w v : Bytes} {S n : Nat} (hS : S ≤ c0.length) (hn : n ≤ w.length)
    (hv : ∀ i, i < n → w[i]? = v[i]?) : Mirrors (splice c0 S w) S v n := by
  intro i hi
  rw [splice_get_inside _ _ _ _ hS (Nat.lt_of_lt_of_le hi hn)]
  exact hv i hi

/-- **C10.** For a destination without short writes (`NoShort`): from a state satisfying the mirror invariant in
    which the header and directory are
    already flushed and all published entries' bounds are below the flushed length, every
    destination state after each completed call of `write_to_file(Some(e))` is a consistent
    snapshot: of the old image with the old entries, or of the new image with the new entry
    whose bound is the image length at this flush. -/
theorem C10_flush (sc : Script) (hns : NoShort sc) (c0 : Bytes) (s : DS) (e : Bytes)
    (pub : List Nat)
    (hinv : C09Inv c0 s) (he : e.length = 12) (hidx : s.dir.currIdx < s.dir.sec.arraySize)
    (hdir : s.dir.sec.position + 12 * s.dir.sec.arraySize ≤ s.dir.lastWritten)
    (hpub : ∀ b ∈ pub, b ≤ s.dir.lastWritten) :
    ∃ b1, s.dir.sec.setValueAt s.buf e s.dir.currIdx = some b1 ∧
    ∀ d ∈ flushStates sc s (some e),
      SnapshotOK d.content s.dir.startOff s.buf.inner (s.dir.sec.position + 12 * s.dir.sec.arraySize) pub ∨
      SnapshotOK d.content s.dir.startOff b1.inner (s.dir.sec.position + 12 * s.dir.sec.arraySize)
        (pub ++ [s.buf.len]) := by
  obtain ⟨hS, hc⟩ := hinv.content
  have hlw := hinv.lw_le
  have hlen : s.buf.len = s.buf.inner.length := rfl
  generalize hP : s.dir.sec.position + 12 * s.dir.currIdx = P
  obtain ⟨hPin, hset, hloc, hb1, hslice⟩ := hinv.slot he hidx hP
  refine ⟨_, hset, fun d hd => ?_⟩
  generalize s.dir.sec.position + 12 * s.dir.sec.arraySize = D at hdir ⊢
  -- the three contents a snapshot can have, and what each is a snapshot of
  have partOK : SnapshotOK (splice c0 s.dir.startOff (s.buf.inner.take s.dir.lastWritten)) s.dir.startOff
      s.buf.inner D pub :=
    ⟨s.dir.lastWritten, .of_splice hS (by rw [List.length_take]; omega)
      (fun i hi => List.getElem?_take_of_lt hi), hdir, hpub⟩
  have oldOK : SnapshotOK (splice c0 s.dir.startOff s.buf.inner) s.dir.startOff s.buf.inner D pub :=
    ⟨s.buf.len, .of_splice hS (Nat.le_refl _) (fun _ _ => rfl), by omega, fun b hb => by have := hpub b hb; omega⟩
  have newOK : SnapshotOK (splice c0 s.dir.startOff (splice s.buf.inner P e)) s.dir.startOff
      (splice s.buf.inner P e) D (pub ++ [s.buf.len]) := by
    refine ⟨s.buf.len, .of_splice hS (by omega) (fun _ _ => rfl), by omega, fun b hb => ?_⟩
    rcases List.mem_append.mp hb with hb | hb
    · have := hpub b hb; omega
    · rw [List.mem_singleton.mp hb]; exact Nat.le_refl _
  -- the pending bytes: all or nothing
  have hw := Dest.writeAll_noshort hns s.dest (s.buf.inner.drop s.dir.lastWritten) hinv.pos_le
  rw [hc, hinv.pos, splice_append _ _ _ _ hS (List.length_take_of_le hlw), List.take_append_drop] at hw
  unfold flushStates at hd
  rw [if_neg (Nat.not_lt.mpr hlw)] at hd
  generalize s.dest.writeAll sc (s.buf.inner.drop s.dir.lastWritten) = r at hw hd
  obtain ⟨d1, ok1⟩ := r
  have first : d ∈ (if (s.buf.inner.drop s.dir.lastWritten).isEmpty then [] else [d1]) → d = d1 := by
    split
    · exact fun h => nomatch h
    · exact List.mem_singleton.mp
  cases ok1 with
  | false =>
    simp only [Bool.not_false, if_true, List.append_nil] at hd
    exact .inl (by rw [first hd, show d1.content = _ from hw]; exact partOK)
  | true =>
    have hd1 : d1.content = splice c0 s.dir.startOff s.buf.inner := hw
    simp only [Bool.not_true, Bool.false_eq_true, if_false] at hd
    rcases List.mem_append.mp hd with hd | hd
    · exact .inl (by rw [first hd, hd1]; exact oldOK)
    · rcases dirEntryStates_content hns ⟨s.buf, d1, { s.dir with lastWritten := s.buf.len }⟩ e _ P 12 hset hloc
        (by show s.dir.startOff + P ≤ d1.content.length
            rw [hd1]; have := le_splice_length c0 s.buf.inner _ hS; omega) d hd with h | h
      · exact .inl (by rw [h, hd1]; exact oldOK)
      · rw [hslice, hd1, splice_splice _ _ _ _ _ hS (by omega)] at h
        exact .inr (by rw [h]; exact newOK)

/-- The order before the repair (directory entry first, stream bytes afterwards), as a model. -/
def writeToFileUnfixedStates (sc : Script) (s : DS) (e : Bytes) : List Dest :=
  dirEntryStates sc s e

/-- **C10 counterexample for the pre-repair order.** Header + 1-slot directory flushed, a 4-byte
    stream appended, entry (type 3, size 4, rva 44) published first: after the entry write the
    destination holds an entry that refers to bytes [44, 48) while only 44 bytes are present. -/
theorem C10_unfixed_counterexample :
    let sc : Script := fun _ => .ok
    let img : Bytes := zeros 44
    let s : DS := ⟨⟨img ++ [1,2,3,4]⟩, ⟨img, 44, 0⟩, ⟨0, ⟨32, 1, 12⟩, 0, 44⟩⟩
    let e : Bytes := le 4 3 ++ le 4 4 ++ le 4 44
    ∃ d ∈ writeToFileUnfixedStates sc s e,
      d.content.length = 44 ∧ (d.content.drop 32).take 12 = e := by
  decide

end Mdw
