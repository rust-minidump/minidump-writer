/- The build-id note is the first note that is *both* owned by "GNU" and of type 3; a note of type 3 with another owner
   (type numbers are per owner) is passed over and the scan goes on (`noteLoop_eq_find`, Theorems/C14.lean: the loop is a
   `find?` with that predicate over all well-formed notes). That the code tests both conditions at once and otherwise
   continues is a regenerated source fact (`Src.noteScanOwnerAndType`; false under the seed C14_r20, which stops at the
   first note of type 3). -/
import MdwModel.Theorems.C14
import MdwModel.Generated.Source
namespace Mdw

theorem NoteOwner_source_agrees : Src.noteScanOwnerAndType = none ∨ Src.noteScanOwnerAndType = some true := by decide

/-- the result of the scan satisfies both conditions: whatever is returned came from a GNU note of type 3 -/
theorem NoteOwner_found_is_gnu (b : Elf.Blob) (be : Bool) (w : Elf.Win) (al fuel off : Nat) (d : Bytes)
    (h : Elf.noteLoop b be w al fuel off = some d) :
    ∃ n ∈ Elf.allNotes b be w al fuel off, Elf.isGnuBuildId b n = true ∧ d = b.slice n.descOff n.descLen := by
  rw [Elf.noteLoop_eq_find] at h
  obtain ⟨n, hf, rfl⟩ := Option.map_eq_some_iff.mp h
  exact ⟨n, List.mem_of_find?_eq_some hf, List.find?_some hf, rfl⟩

end Mdw
