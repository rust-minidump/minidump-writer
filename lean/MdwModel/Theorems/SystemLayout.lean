/-
  The layout hypothesis of the totality theorem, discharged from the aggregation theorems: for every well-formed
  `/proc/<pid>/maps` (lines in ascending order, non-empty, not overlapping: `linesOk`) whose addresses fit in 64 bits
  and leave the first eight bytes of the address space alone, the aggregated mappings satisfy `LayoutOk`. So
  `System_settled` holds for every target whose mapping list *is* the aggregation of such a map — the mappings need
  not be assumed well-formed, they are.
-/
import MdwModel.Theorems.SystemTotal
import MdwModel.Theorems.C13
namespace Mdw

theorem sortedDisjoint_lt : ∀ (l : List Mapping), sortedDisjoint l = true →
    ∀ (i j : Nat) (a b : Mapping), i < j → l[i]? = some a → l[j]? = some b → a.end_ ≤ b.start := by
  intro l h i j a b hij hi hj
  obtain ⟨hi', rfl⟩ := List.getElem?_eq_some_iff.mp hi
  obtain ⟨hj', rfl⟩ := List.getElem?_eq_some_iff.mp hj
  exact List.pairwise_iff_getElem.mp ((sortedDisjoint_iff l).mp h).1 i j hi' hj' hij

/-- **C13 ⇒ the layout hypothesis.** -/
theorem C13_layout (gate : Option Nat) (ls : List MLine) (page : Nat) (hp : 0 < page) (h : linesOk ls = true)
    (h64 : ∀ l ∈ ls, l.e < 2 ^ 64) (hlow : ∀ l ∈ ls, 8 ≤ l.s) :
    LayoutOk (aggregate gate ls) page := by
  obtain ⟨gs, h1, h2, hok, _⟩ := C13_ghost gate ls h
  have hsys := C13_sys_in_hull gate ls h
  -- a mapping ends where its last line ends and starts where its first line starts
  have hper : ∀ m ∈ aggregate gate ls, m.end_ < 2 ^ 64 ∧ 8 ≤ m.start := by
    intro m hm
    rw [h1] at hm
    obtain ⟨g, hg, rfl⟩ := List.mem_map.mp hm
    obtain ⟨f, rest, hblk, hs, _⟩ := (hok g hg).head
    obtain ⟨l, hl, hle⟩ := (hok g hg).last
    have hin : ∀ x ∈ g.blk, x ∈ ls := fun x hx => h2 ▸ List.mem_flatMap.mpr ⟨g, hg, hx⟩
    exact ⟨hle ▸ h64 l (hin l (List.mem_of_getLast? hl)), hs ▸ hlow f (hin f (hblk ▸ List.mem_cons_self))⟩
  refine ⟨hp, ⟨fun m hm => ?_, fun a ha b hb w hwa hwb => ?_⟩, fun m hm => (hper m hm).2⟩
  · exact ⟨Nat.le_of_eq (hsys m hm).1.symm, (hsys m hm).2.1, (hper m hm).1⟩
  · simp only [Mapping.containsAddress, Bool.and_eq_true, decide_eq_true_eq] at hwa hwb
    obtain ⟨a1, a2, _⟩ := hsys a ha
    obtain ⟨b1, b2, _⟩ := hsys b hb
    exact eq_of_overlap ((sortedDisjoint_iff _).mp (C13_sorted_disjoint gate ls h)).1 ha hb
      ⟨a1 ▸ hwa.1, Nat.lt_of_lt_of_le hwa.2 a2⟩ ⟨b1 ▸ hwb.1, Nat.lt_of_lt_of_le hwb.2 b2⟩

/-- the layout hypothesis does not depend on the order of the list (the dumper moves the entry point's mapping to the
    front) -/
theorem LayoutOk.of_subset {ms ms' : List Mapping} {page : Nat} (h : LayoutOk ms page) (hm : ∀ x, x ∈ ms' → x ∈ ms) :
    LayoutOk ms' page :=
  ⟨h.page_pos,
   ⟨fun m hmm => h.wf.hull m (hm m hmm),
    fun a ha b hb w h1 h2 => h.wf.disjoint a (hm a ha) b (hm b hb) w h1 h2⟩,
   fun m hmm => h.low m (hm m hmm)⟩

/-- **Never a panic, for every well-formed memory map.** The mappings are the aggregation of the target's memory map
    (with the entry point's mapping moved to the front): no hypothesis about them is left. -/
theorem System_settled_of_map (s : SysState) (r : Request) (gate : Option Nat) (ls : List MLine)
    (entry : Option Nat) (hms : s.ms = Mod.swapEntry (aggregate gate ls) entry) (hp : 0 < s.page) (h : linesOk ls = true)
    (h64 : ∀ l ∈ ls, l.e < 2 ^ 64) (hlow : ∀ l ∈ ls, 8 ≤ l.s)
    (hsp : ∀ t ∈ s.threads, t.sp < 2 ^ 64) (hcsp : ∀ ci c, r.crash = some (ci, c) → c.sp < 2 ^ 64) :
    (gatherDump s r).settled ∧ (systemDump s r).settled :=
  System_settled s r (by
    rw [hms]
    exact (C13_layout gate ls s.page hp h h64 hlow).of_subset (fun x => Mod.C08_swap_mem (aggregate gate ls) entry x)) hsp hcsp

end Mdw
