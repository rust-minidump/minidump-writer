/-
  C13 — Mapping aggregation preserves the address-space picture  (MappingInfo::aggregate)

  For every well-formed memory map (`linesOk`: non-empty ranges, ascending, non-overlapping), any
  names / permissions / offsets and any vDSO address:

    C13_decomposition     the output is, in order, one mapping per block of a partition of the
                          lines into consecutive blocks; each mapping is the hull of its block, the
                          block is contiguous, and every line after the first was merged for one of
                          the three admissible reasons (`blockOk`, the predicate the driver also
                          evaluates on the implementation's output)
    C13_sorted_disjoint   ascending, pairwise disjoint, non-empty
    C13_cover             every line lies inside some output mapping …
    C13_cover_unique      … and in at most one
    C13_gate              the mapping starting at the vDSO address whose line has no path name is
                          named linux-gate.so with offset 0
    C13_sys_in_hull       sysStart = start ∧ sysEnd ≤ end (what C06 / C07 / C12 assume of the mappings as
                          `HullOk` / `WfMaps`; `C13_layout` supplies it from here)
    C13_hullOk / _coveredOnce / _gateOk, C13_predicate_complete   the predicate the driver evaluates on the
                          implementation's output (`c13All`) holds of the model's output
  All are read off `C13_ghost`, the run of `aggregate` with ghost blocks (Lemmas/Maps.lean).
-/
import MdwModel.Lemmas.Maps
namespace Mdw

/-- the ghost run: mappings with their blocks, oldest first -/
theorem C13_ghost (gate : Option Nat) (ls : List MLine) (h : linesOk ls = true) :
    ∃ gs : List GM, aggregate gate ls = gs.map GM.m ∧ gs.flatMap GM.blk = ls ∧
      (∀ g ∈ gs, GOk gate g) ∧ sortedDesc gs.reverse := by
  obtain ⟨hp, hne⟩ := (linesOk_iff ls).mp h
  obtain ⟨gs, le, hgs, hinv⟩ :=
    fold_ghost [] [] ls 0 ⟨rfl, by simp, trivial, by simp⟩ hp hne (fun _ _ => Nat.zero_le _)
  refine ⟨gs.reverse, ?_, by simpa using hinv.flat, fun g hg => hinv.ok g (List.mem_reverse.mp hg),
    by simpa using hinv.sorted⟩
  rw [aggregate, List.map_reverse, ← hgs]; rfl

theorem contiguous_true_of (blk : List MLine) (h : contiguous blk = true) : contiguous blk = true := h

theorem GOk_blockOk (gate : Option Nat) (g : GM) (hg : GOk gate g) : blockOk gate g.m g.blk = true := by
  obtain ⟨⟨f, rest, hblk, hs, hn, ho, hp⟩, ⟨l, hl, hle⟩, hc, hsy, hpos, hex, hw, hr⟩ := hg
  unfold blockOk
  have hh : g.blk.head? = some f := by rw [hblk]; rfl
  rw [hh, hl]
  simp only [Bool.and_eq_true, beq_iff_eq, decide_eq_true_eq, List.all_eq_true, List.mem_range,
    Bool.or_eq_true]
  exact ⟨⟨⟨⟨⟨⟨hs, hle⟩, hc⟩, hsy.1⟩, hsy.2⟩, hn⟩,
    fun i hi => (Nat.eq_zero_or_pos i).imp_right fun h0 => hr i h0 hi⟩

/-- **C13 (decomposition / hull / merge soundness).** -/
theorem C13_decomposition (gate : Option Nat) (ls : List MLine) (h : linesOk ls = true) :
    ∃ gs : List GM, aggregate gate ls = gs.map GM.m ∧ gs.flatMap GM.blk = ls ∧
      ∀ g ∈ gs, blockOk gate g.m g.blk = true := by
  obtain ⟨gs, h1, h2, h3, _⟩ := C13_ghost gate ls h
  exact ⟨gs, h1, h2, fun g hg => GOk_blockOk gate g (h3 g hg)⟩

/-- **C13 (order).** -/
theorem C13_sorted_disjoint (gate : Option Nat) (ls : List MLine) (h : linesOk ls = true) :
    sortedDisjoint (aggregate gate ls) = true := by
  obtain ⟨gs, h1, _, hok, hs⟩ := C13_ghost gate ls h
  rw [h1, sortedDisjoint_iff, List.pairwise_map]
  rw [sortedDesc_iff, List.pairwise_reverse] at hs
  refine ⟨hs, fun m hm => ?_⟩
  obtain ⟨g, hg, rfl⟩ := List.mem_map.mp hm
  exact Nat.pos_of_lt_add_right (hok g hg).pos

/-- **C13 (cover).** every line of the map is contained in a derived mapping -/
theorem C13_cover (gate : Option Nat) (ls : List MLine) (h : linesOk ls = true) :
    ∀ l ∈ ls, ∃ m ∈ aggregate gate ls, m.start ≤ l.s ∧ l.e ≤ m.end_ := by
  obtain ⟨gs, h1, h2, h3, _⟩ := C13_ghost gate ls h
  intro l hl
  rw [← h2] at hl
  obtain ⟨g, hg, hlg⟩ := List.mem_flatMap.mp hl
  have := (h3 g hg).within l hlg
  exact ⟨g.m, h1 ▸ List.mem_map_of_mem hg, this.1, this.2.1⟩

/-- **C13 (cover, uniqueness).** two derived mappings containing the same (non-empty) line are
    the same element of the output -/
theorem C13_cover_unique (gate : Option Nat) (ls : List MLine) (h : linesOk ls = true)
    (s e : Nat) (hse : s < e) (i j : Nat) (mi mj : Mapping)
    (hi : (aggregate gate ls)[i]? = some mi) (hj : (aggregate gate ls)[j]? = some mj)
    (ci : mi.start ≤ s ∧ e ≤ mi.end_) (cj : mj.start ≤ s ∧ e ≤ mj.end_) : i = j :=
  idx_eq_of_overlap ((sortedDisjoint_iff _).mp (C13_sorted_disjoint gate ls h)).1 hi hj
    ⟨ci.1, Nat.lt_of_lt_of_le hse ci.2⟩ ⟨cj.1, Nat.lt_of_lt_of_le hse cj.2⟩

/-- **C13 (linux gate).** -/
theorem C13_gate (gate : Nat) (ls : List MLine) (h : linesOk ls = true) :
    ∃ gs : List GM, aggregate (some gate) ls = gs.map GM.m ∧ gs.flatMap GM.blk = ls ∧
      ∀ g ∈ gs, ∀ f, g.blk.head? = some f → g.m.start = f.s ∧
        (f.s = gate → isPathName (pathnameOf f.path) = false →
          g.m.name = some LINUX_GATE ∧ g.m.offset = 0) := by
  obtain ⟨gs, h1, h2, h3, _⟩ := C13_ghost (some gate) ls h
  refine ⟨gs, h1, h2, fun g hg f hf => ?_⟩
  obtain ⟨f', rest, hblk, hs, hn, ho, _⟩ := (h3 g hg).head
  obtain rfl : f' = f := by simpa [hblk] using hf
  refine ⟨hs, fun hgate hnp => ?_⟩
  rw [hn, ho, effNameOff_gate hgate hnp]
  exact ⟨rfl, rfl⟩

/-- **C13 (system range inside the hull).** -/
theorem C13_sys_in_hull (gate : Option Nat) (ls : List MLine) (h : linesOk ls = true) :
    ∀ m ∈ aggregate gate ls, m.sysStart = m.start ∧ m.sysEnd ≤ m.end_ ∧ m.start < m.end_ := by
  obtain ⟨gs, h1, _, h3, _⟩ := C13_ghost gate ls h
  intro m hm
  rw [h1] at hm
  obtain ⟨g, hg, rfl⟩ := List.mem_map.mp hm
  exact ⟨(h3 g hg).sys.1, (h3 g hg).sys.2, (h3 g hg).pos⟩

/-- Non-vacuity: a concrete well-formed map in which all three rules fire. -/
example :
    let a : Bytes := [47, 108, 105, 98, 47, 97, 46, 115, 111]          -- "/lib/a.so"
    let ls : List MLine := [⟨0x1000, 0x2000, 1 + 16, 0, .path a⟩,
      ⟨0x2000, 0x3000, 16, 0, .anon⟩, ⟨0x3000, 0x4000, 5 + 16, 0x1000, .path a⟩,
      ⟨0x4000, 0x5000, 16, 0, .anon⟩, ⟨0x5000, 0x6000, 3 + 16, 0x3000, .path (a ++ DELETED_SUFFIX)⟩,
      ⟨0x9000, 0xa000, 5 + 16, 0, .anon⟩]
    linesOk ls = true ∧ (aggregate (some 0x9000) ls).map (fun m => (m.start, m.size, m.sysEnd)) =
      [(0x1000, 0x5000, 0x6000), (0x9000, 0x1000, 0xa000)] ∧
      c13All (some 0x9000) ls (aggregate (some 0x9000) ls) = true := by decide

/-- the greedy decomposition finds the blocks back: every block ends inside its mapping, the line after it does not -/
theorem hullOk_of_blocks (gate : Option Nat) (gs : List GM) (hok : ∀ g ∈ gs, GOk gate g)
    (h : linesOk (gs.flatMap GM.blk) = true) : hullOk gate (gs.flatMap GM.blk) (gs.map GM.m) = true := by
  rw [linesOk_iff] at h
  induction gs with
  | nil => rfl
  | cons g r ih =>
    obtain ⟨hg, hr⟩ := List.forall_mem_cons.mp hok
    obtain ⟨l, hl, hle⟩ := hg.last
    rw [List.flatMap_cons, List.pairwise_append] at h
    obtain ⟨ht, hd⟩ := takeWhile_dropWhile_append (fun x : MLine => decide (x.e ≤ g.m.end_)) g.blk
      (r.flatMap GM.blk) (fun x hx => decide_eq_true (hg.within x hx).2.1)
      (fun x hx => decide_eq_false (by
        have := h.1.2.2 l (List.mem_of_getLast? hl) x (List.mem_of_head? hx)
        have := h.2 x (List.mem_append_right _ (List.mem_of_head? hx))
        omega))
    rw [List.map_cons, List.flatMap_cons, hullOk_cons, ht, hd, GOk_blockOk gate g hg, Bool.true_and]
    exact ih hr ⟨h.1.2.1, fun x hx => h.2 x (List.mem_append_right _ hx)⟩

/-- **C13 (the check's predicate holds of the model).** The greedy block decomposition that the check
    evaluates on the implementation's output accepts the model's output for every well-formed map: the
    predicate demands nothing the theorem does not give. -/
theorem C13_hullOk (gate : Option Nat) (ls : List MLine) (h : linesOk ls = true) :
    hullOk gate ls (aggregate gate ls) = true := by
  obtain ⟨gs, h1, h2, h3, -⟩ := C13_ghost gate ls h
  rw [h1, ← h2]
  exact hullOk_of_blocks gate gs h3 (h2 ▸ h)

theorem filter_length_le_one {α} (p : α → Bool) (R : α → α → Prop) (l : List α) (hp : l.Pairwise R)
    (hx : ∀ a b, R a b → ¬ (p a = true ∧ p b = true)) : (l.filter p).length ≤ 1 := by
  induction l with
  | nil => simp
  | cons a l ih =>
    obtain ⟨ha, hl⟩ := List.pairwise_cons.mp hp
    by_cases hpa : p a = true
    · rw [List.filter_cons_of_pos hpa, List.filter_eq_nil_iff.mpr fun b hb hpb => hx a b (ha b hb) ⟨hpa, hpb⟩]
      exact Nat.le_refl 1
    · rw [List.filter_cons_of_neg hpa]
      exact ih hl

/-- every line lies in exactly one mapping of the model's output -/
theorem C13_coveredOnce (gate : Option Nat) (ls : List MLine) (h : linesOk ls = true) :
    coveredOnce ls (aggregate gate ls) = true := by
  unfold coveredOnce containers
  rw [List.all_eq_true]
  intro l hl
  have hlpos := ((linesOk_iff ls).mp h).2 l hl
  obtain ⟨m, hm, hc⟩ := C13_cover gate ls h l hl
  have hpw := ((sortedDisjoint_iff _).mp (C13_sorted_disjoint gate ls h)).1
  rw [beq_iff_eq]
  refine Nat.le_antisymm (filter_length_le_one _ _ _ hpw fun a b hab hboth => ?_)
    (List.length_pos_of_mem (List.mem_filter.mpr ⟨hm, by simp [hc.1, hc.2]⟩))
  simp only [Bool.and_eq_true, decide_eq_true_eq] at hboth
  omega

/-- the linux-gate rule holds of the model's output -/
theorem C13_gateOk (gate : Option Nat) (ls : List MLine) (h : linesOk ls = true) :
    gateOk gate ls (aggregate gate ls) = true := by
  cases gate with
  | none => rfl
  | some g0 =>
    obtain ⟨gs, h1, h2, h3, -⟩ := C13_ghost (some g0) ls h
    unfold gateOk
    simp only [List.all_eq_true, Bool.or_eq_true]
    intro l hl
    refine Decidable.or_iff_not_imp_left.mpr fun hgate => ?_
    simp only [Bool.not_eq_true', Bool.not_eq_false, Bool.and_eq_true, beq_iff_eq] at hgate
    obtain ⟨g, hg, hlg⟩ := List.mem_flatMap.mp (h2 ▸ hl)
    have hw := (h3 g hg).within l hlg
    rw [List.any_eq_true]
    refine ⟨g.m, h1 ▸ List.mem_map_of_mem hg, ?_⟩
    simp only [Bool.and_eq_true, decide_eq_true_eq, Bool.or_eq_true, bne_iff_ne, ne_eq, beq_iff_eq]
    refine ⟨⟨hw.1, hw.2.1⟩, Decidable.or_iff_not_imp_left.mpr fun hs => ?_⟩
    obtain ⟨f, rest, hblk, hfs, hname, hoff, -⟩ := (h3 g hg).head
    -- only the block's head starts at the mapping's start
    obtain rfl : l = f := linesOk_eq_of_start ls h l f hl
      (h2 ▸ List.mem_flatMap.mpr ⟨g, hg, hblk ▸ List.mem_cons_self ..⟩) (by omega)
    rw [hname, hoff, effNameOff_gate hgate.1 hgate.2]
    exact ⟨rfl, rfl⟩

/-- **C13 (the check's predicate is complete).** Everything the check evaluates on the implementation's
    output holds of the model's output, for every well-formed map and every vDSO address. -/
theorem C13_predicate_complete (gate : Option Nat) (ls : List MLine) (h : linesOk ls = true) :
    c13All gate ls (aggregate gate ls) = true := by
  unfold c13All
  rw [C13_sorted_disjoint gate ls h, C13_coveredOnce gate ls h, C13_hullOk gate ls h, C13_gateOk gate ls h]
  rfl

end Mdw
