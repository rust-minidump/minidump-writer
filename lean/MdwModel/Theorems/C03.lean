/-
  C03 — The target is left running and undisturbed  (dumper script; partial: kernel semantics assumed)

  (a) For every attach outcome of every thread and every ending of a request that got past `init`:
    C03_brackets        for every thread id the trace holds as many detaches (by suspend_thread's own error
                        paths or by resume_threads / Drop) as the input has attach outcomes after which the
                        tracee still exists: one for each such thread, none for any other
    C03_cont_last       whenever the dumper was constructed the trace ends with SIGCONT
    C03_signals_reinjected   every signal reported while waiting for the attach stop is passed back
                        unchanged by PTRACE_CONT right away
    C03_capture_in_bracket   every trace ends with the detaches of the retained threads and SIGCONT;
                        no register or memory read of the target follows the first of those detaches
  (b) The kernel's side (a detached thread with no SIGSTOP pending resumes; a re-injected signal
  is delivered once; SIGCONT ends the group stop) is the trusted base; the live fault / signal
  matrix observes it: no tracer, no stopped task, sent = delivered per thread.
-/
import MdwModel.Lemmas.Ptrace
namespace Mdw

def attachCount (t : Nat) (tr : List Action) : Nat := tr.count (.attach t)
def detachCount (t : Nat) (tr : List Action) : Nat := tr.count (.detach t)

/-- the tracee still exists after the attach sequence -/
def survives : AttachOutcome → Bool
  | .attachFails => false
  | .gone _ => false
  | _ => true

theorem reinject_no_detach (t u : Nat) (sigs : List Nat) : (reinject t sigs).count (.detach u) = 0 := by
  rw [List.count_eq_zero, mem_reinject]
  rintro ⟨s, _, h | h⟩ <;> cases h

theorem suspendThread_detach (t u : Nat) (o : AttachOutcome) :
    (suspendThread t o).1.count (.detach u) + (if (suspendThread t o).2 then [t] else []).count u =
      if (t == u && survives o) = true then 1 else 0 := by
  cases o <;> simp [suspendThread, survives, List.count_cons, reinject_no_detach]

theorem suspendAll_counts (ths : List (Nat × AttachOutcome)) (u : Nat) :
    ths.countP (fun p => p.1 == u && survives p.2) =
      (suspendAll ths).1.count (.detach u) + (suspendAll ths).2.count u := by
  induction ths with
  | nil => rfl
  | cons p rest ih =>
    rw [suspendAll_cons, List.countP_cons, List.count_append, List.count_append, ih, ← suspendThread_detach]
    omega

theorem count_map_detach (ret : List Nat) (u : Nat) : (ret.map Action.detach).count (.detach u) = ret.count u := by
  induction ret with
  | nil => rfl
  | cons a r ih => simp [List.count_cons, ih]

/-- **C03 (brackets).** In every trace of a request that got past `init`, for every thread id the
    number of detaches equals the number of attach sequences after which the tracee still exists. -/
theorem C03_brackets (stopSent : Bool) (ths : List (Nat × AttachOutcome)) (e : Ending) (u : Nat)
    (he : e ≠ .sameProcess ∧ e ≠ .initFails) :
    detachCount u (dumpTrace stopSent ths e) = (ths.filter (fun p => p.1 == u && survives p.2)).length := by
  obtain ⟨k, hk⟩ := dumpTrace_phases stopSent ths e he
  have hstop : (if stopSent then [Action.killStop] else []).count (.detach u) = 0 := by
    cases stopSent <;> rfl
  have hcap : (capture (suspendAll ths).2 k).count (.detach u) = 0 := by
    simp [List.count_eq_zero, capture]
  have hcont : [Action.killCont].count (.detach u) = 0 := rfl
  rw [detachCount, hk, ← List.countP_eq_length_filter, suspendAll_counts]
  simp only [List.count_append, hstop, hcap, hcont, count_map_detach]
  omega

/-- **C03 (SIGCONT last).** -/
theorem C03_cont_last (stopSent : Bool) (ths : List (Nat × AttachOutcome)) (e : Ending) (he : e ≠ .sameProcess) :
    (dumpTrace stopSent ths e).getLast? = some .killCont := by
  by_cases hi : e = .initFails
  · simp [hi, dumpTrace]
  · obtain ⟨k, hk⟩ := dumpTrace_phases stopSent ths e ⟨he, hi⟩
    rw [hk, List.getLast?_append, List.getLast?_append]
    rfl

/-- **C03 (signals are re-injected).** in an attach sequence every reported signal is followed
    immediately by PTRACE_CONT with that same signal -/
theorem C03_signals_reinjected (t : Nat) (sigs : List Nat) :
    ∀ i s, (reinject t sigs)[i]? = some (.sigSeen t s) → (reinject t sigs)[i + 1]? = some (.cont t s) := by
  induction sigs with
  | nil => intro i s h; simp [reinject] at h
  | cons a r ih =>
    intro i s h
    rw [reinject_cons] at h ⊢
    match i with
    | 0 => simpa using h
    | 1 => simp at h
    | i + 2 => exact ih i s h

/-- **C03 (capture inside the bracket).** the tail of every trace past init is `detach` of the
    retained threads followed by SIGCONT, and contains no register or memory read of the target -/
theorem C03_capture_in_bracket (stopSent : Bool) (ths : List (Nat × AttachOutcome)) (e : Ending)
    (he : e ≠ .sameProcess ∧ e ≠ .initFails) :
    ∃ pre, dumpTrace stopSent ths e = pre ++ ((suspendAll ths).2.map Action.detach ++ [.killCont]) ∧
      ∀ a ∈ (suspendAll ths).2.map Action.detach ++ [Action.killCont], a ≠ .readMem ∧ ∀ t, a ≠ .getRegs t := by
  obtain ⟨k, hk⟩ := dumpTrace_phases stopSent ths e he
  refine ⟨_, hk, fun a ha => ?_⟩
  simp only [List.mem_append, List.mem_map, List.mem_singleton] at ha
  rcases ha with ⟨x, _, rfl⟩ | rfl <;> simp

example : dumpTrace true [(7, .stops [10]), (8, .attachFails), (9, .skipped [])] (.duringStreams 1) =
    [.killStop, .attach 7, .sigSeen 7 10, .cont 7 10, .stopSeen 7, .getRegs 7, .attachFailed 8,
     .attach 9, .stopSeen 9, .getRegs 9, .detach 9, .getRegs 7, .readMem, .detach 7, .killCont] := by decide

end Mdw
