/- The dumper's own mapping list (`PtraceDumper::mappings`) over a history of initialisations.

   `MappingInfo::aggregate` is the subject of the C13 theorems; what a request *uses* is the dumper's list: the
   aggregation of the memory map as `enumerate_mappings` read it, with the entry point's mapping moved to the front
   — and `init` is public, so it can run more than once on one dumper. This file states C13 for that list:
   whatever happened to the dumper before, after an `init` that saw the map `ls` the list is a permutation of
   `aggregate gate ls`, every line of `ls` lies in exactly one of its mappings, and put in address order it *is*
   `aggregate gate ls` (so all C13 predicates hold of it). The one fact about the source this rests on — the list is
   assigned, not extended — is regenerated from the source on every run (`Src.enumerateMappingsReplaces`). -/
import MdwModel.Theorems.C13
import MdwModel.Model.Modules
import MdwModel.Generated.Source
namespace Mdw
open Mdw.Mod

/-- the part of the dumper's state that `enumerate_mappings` touches -/
structure DumperMaps where
  mappings : List Mapping

/-- `enumerate_mappings`: the list is *replaced* by the aggregation of the map read now; then the entry point's
    mapping is moved to the front -/
def DumperMaps.init (_d : DumperMaps) (gate entry : Option Nat) (ls : List MLine) : DumperMaps :=
  ⟨swapEntry (aggregate gate ls) entry⟩

/-- a history of initialisations of one dumper, each seeing the target's memory map as it was then -/
def DumperMaps.inits (d : DumperMaps) (gate entry : Option Nat) : List (List MLine) → DumperMaps
  | [] => d
  | ls :: rest => (d.init gate entry ls).inits gate entry rest

/-- the obligation on the source: the model's `init` assigns, and so does the code (`none`: the extractor no
    longer recognises the function — then the live correspondence is what is left) -/
theorem DumperInit_source_agrees :
    Src.enumerateMappingsReplaces = none ∨ Src.enumerateMappingsReplaces = some true := by decide

/-- either nothing moves, or positions `0` and `i` change places (`i = 0`: both `set`s write back what was there) -/
theorem swapEntry_eq (ms : List Mapping) (entry : Option Nat) :
    swapEntry ms entry = ms ∨
      ∃ i, ∃ hi : i < ms.length, swapEntry ms entry = (ms.set 0 ms[i]).set i (ms[0]'(Nat.zero_lt_of_lt hi)) := by
  cases entry with
  | none => exact .inl rfl
  | some e =>
    cases hidx : ms.findIdx? (fun m => m.start ≤ e && e < m.start + m.size) with
    | none => exact .inl (by simp only [swapEntry, hidx])
    | some i =>
      have hi : i < ms.length := (List.findIdx?_eq_some_iff_getElem.mp hidx).1
      refine .inr ⟨i, hi, ?_⟩
      cases i with
      | zero => simp only [swapEntry, hidx, List.set_getElem_self]
      | succ i =>
        simp only [swapEntry, hidx, List.getElem?_eq_getElem hi, List.getElem?_eq_getElem (Nat.zero_lt_of_lt hi)]

theorem swapEntry_perm (ms : List Mapping) (entry : Option Nat) : (swapEntry ms entry).Perm ms := by
  rcases swapEntry_eq ms entry with h | ⟨i, hi, h⟩
  · rw [h]
  · rw [h]; exact List.set_set_perm (Nat.zero_lt_of_lt hi) hi

theorem containers_perm (l : MLine) {a b : List Mapping} (h : a.Perm b) : containers a l = containers b l := by
  unfold containers
  exact (h.filter _).length_eq

theorem coveredOnce_perm (ls : List MLine) {a b : List Mapping} (h : a.Perm b) : coveredOnce ls a = coveredOnce ls b := by
  simp only [coveredOnce, containers_perm _ h]

/-- whatever the dumper held before, the list is a permutation of the aggregation of the map just read -/
theorem DumperInit_perm (d : DumperMaps) (gate entry : Option Nat) (ls : List MLine) :
    (d.init gate entry ls).mappings.Perm (aggregate gate ls) :=
  swapEntry_perm _ _

/-- … so every line of that map lies in exactly one of the dumper's mappings -/
theorem DumperInit_coveredOnce (d : DumperMaps) (gate entry : Option Nat) (ls : List MLine) (h : linesOk ls = true) :
    coveredOnce ls (d.init gate entry ls).mappings = true := by
  rw [coveredOnce_perm ls (DumperInit_perm d gate entry ls)]
  exact C13_coveredOnce gate ls h

/-- after any history of initialisations the list depends on the last memory map seen, and on nothing else -/
theorem DumperInit_history (d : DumperMaps) (gate entry : Option Nat) (hist : List (List MLine)) (ls : List MLine) :
    (d.inits gate entry (hist ++ [ls])).mappings = swapEntry (aggregate gate ls) entry := by
  induction hist generalizing d with
  | nil => rfl
  | cons h t ih => exact ih (d.init gate entry h)

/-- … in particular initialising again over an unchanged map changes nothing -/
theorem DumperInit_idempotent (d : DumperMaps) (gate entry : Option Nat) (ls : List MLine) :
    ((d.init gate entry ls).init gate entry ls).mappings = (d.init gate entry ls).mappings := rfl

def leStart (a b : Mapping) : Bool := decide (a.start ≤ b.start)

theorem sorted_mergeSort_eq (out sorted : List Mapping) (hp : out.Perm sorted) (hs : sortedDisjoint sorted = true) :
    out.mergeSort leStart = sorted := by
  obtain ⟨hasc, hpos⟩ := (sortedDisjoint_iff sorted).mp hs
  have hsorted : (out.mergeSort leStart).Pairwise (fun a b => leStart a b = true) :=
    List.pairwise_mergeSort (le := leStart)
      (fun _ _ _ hab hbc => decide_eq_true (Nat.le_trans (of_decide_eq_true hab) (of_decide_eq_true hbc)))
      (fun a b => by simpa [leStart] using Nat.le_total a.start b.start) out
  have hs' : sorted.Pairwise (fun a b => leStart a b = true) :=
    hasc.imp (fun h => decide_eq_true (Nat.le_trans (Nat.le_add_right _ _) h))
  have hperm : (out.mergeSort leStart).Perm sorted := (List.mergeSort_perm out leStart).trans hp
  refine List.Perm.eq_of_pairwise (le := fun a b => leStart a b = true) ?_ hsorted hs' hperm
  intro a b ha hb hab hba
  simp only [leStart, decide_eq_true_eq] at hab hba
  -- equal starts: the two non-empty mappings share that address
  exact eq_of_overlap hasc (hperm.mem_iff.mp ha) hb
    ⟨Nat.le_refl _, Nat.lt_add_of_pos_right (hpos a (hperm.mem_iff.mp ha))⟩
    ⟨hba, Nat.lt_of_le_of_lt hab (Nat.lt_add_of_pos_right (hpos b hb))⟩

/-- the dumper's list, put in address order, is the aggregation of the map: ascending, disjoint, each mapping the
    hull of a block of lines merged for an admissible reason, the gate mapping named (all C13 predicates) -/
theorem DumperInit_sorted (d : DumperMaps) (gate entry : Option Nat) (ls : List MLine) (h : linesOk ls = true) :
    (d.init gate entry ls).mappings.mergeSort leStart = aggregate gate ls :=
  sorted_mergeSort_eq _ _ (DumperInit_perm d gate entry ls) (C13_sorted_disjoint gate ls h)

theorem DumperInit_predicates (d : DumperMaps) (gate entry : Option Nat) (ls : List MLine) (h : linesOk ls = true) :
    c13All gate ls ((d.init gate entry ls).mappings.mergeSort leStart) = true := by
  rw [DumperInit_sorted d gate entry ls h]
  exact C13_predicate_complete gate ls h

/-- the statement is not vacuous: a three-line map whose entry point lies in the second derived mapping -/
example :
    let ls : List MLine := [⟨0x1000, 0x2000, 4, 0, .anon⟩, ⟨0x400000, 0x401000, 5, 0, .path [47, 97]⟩, ⟨0x401000, 0x402000, 6, 0x1000, .path [47, 97]⟩]
    linesOk ls = true ∧ ((⟨[]⟩ : DumperMaps).init none (some 0x400010) ls).mappings ≠ aggregate none ls
      ∧ coveredOnce ls ((⟨[]⟩ : DumperMaps).init none (some 0x400010) ls).mappings = true := by
  decide +kernel

end Mdw
