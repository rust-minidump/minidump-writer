/-
  The reader of the gathering model instantiated with the reader model of C17 (src/linux/mem_reader.rs over a paged
  target memory): `copy_from_process` = a fresh `MemReader`, which tries the vectored read, then /proc/<pid>/mem, then
  PTRACE_PEEKDATA, and keeps the first that succeeds. Where the pages are readable it returns exactly the target's
  bytes (C17), which discharges the reader hypothesis of the end-to-end theorems: the statement for a thread whose
  stack lies in readable memory then has no assumption about the reader left.
-/
import MdwModel.Theorems.EndToEnd
import MdwModel.Theorems.C17
namespace Mdw

theorem allReadable_sub (m : TMem) (lo len a n : Nat) (h : m.allReadable lo len = true) (h1 : lo ≤ a) (h2 : a + n ≤ lo + len) :
    m.allReadable a n = true := by
  rw [TMem.allReadable_iff] at *
  exact fun x hx1 hx2 => h x (Nat.le_trans h1 hx1) (Nat.lt_of_lt_of_le hx2 h2)

theorem copy_readable (m : TMem) (src n : Nat) (hn : 0 < n) (h : m.allReadable src n = true) :
    copyFromProcess m src n = some (m.bytes src n) := by
  rw [copyFromProcess, if_neg (Nat.ne_of_gt hn), C17_vmem_readable m src n hn h]

/-- **The reader hypothesis, discharged.** -/
theorem copy_reads_exactly_in (m : TMem) (ms : List Mapping) (page lo len : Nat) (h : m.allReadable lo len = true) :
    ReadsExactlyIn ⟨ms, page, copyFromProcess m⟩ m.byte lo (lo + len) := by
  intro a n bs h1 h2 hrd
  simp only at hrd
  by_cases hn : n = 0
  · simp [copyFromProcess, hn] at hrd
  · rw [copy_readable m a n (Nat.pos_of_ne_zero hn) (allReadable_sub m lo len a n h h1 h2)] at hrd
    cases hrd
    rfl

/-- **End to end over the paged-memory reader (C06 + C17 + C12 + C20 composed).** For a target memory `mem` whose
    pages under the mapping that holds the stack pointer are readable: whatever the configuration, a recorded stack
    contains the stack pointer, ends inside the mapping, holds the target's bytes when not sanitized, reaches the
    mapping's end when no cap applies, and ends before it only for a late thread under a limit, never the crash-context
    thread. No assumption about the reader remains. -/
theorem E2E_stack_readable (mem : TMem) (ms : List Mapping) (page : Nat) (cfg : GCfg) (idx n currPos : Nat) (isCrash : Bool)
    (sp ip : Nat) (m : Mapping) (start : Nat) (bytes : Bytes)
    (hp : 0 < page) (hw : HullOk ms) (hrd : mem.allReadable m.start m.size = true)
    (hf : findMapping ms (sp - sp % page) = some m) (hs : mayBeStack (some m) = true) (hsp : sp < m.start + m.size)
    (hsan : cfg.sanitize = true → WfMaps ms ∧ sp + 7 < 2 ^ 64)
    (hg : gatherStack ⟨ms, page, copyFromProcess mem⟩ cfg idx n currPos isCrash sp ip = .ok (some (start, bytes))) :
    start ≤ sp ∧ sp < start + bytes.length ∧ start + bytes.length ≤ m.start + m.size ∧
    (cfg.sanitize = false → ∀ k, k < bytes.length → bytes[k]? = some (mem.byte (start + k))) ∧
    (maxStackLen cfg.limit (extraLimit cfg.limit n currPos) idx isCrash = none →
      start + bytes.length = m.start + m.size ∧ (start = sp - sp % page ∨ start = m.start)) ∧
    (start + bytes.length < m.start + m.size →
      cfg.limit.isSome ∧ LIMIT_BASE_THREAD_COUNT ≤ idx ∧ isCrash = false ∧ bytes.length ≤ LIMIT_MAX_EXTRA_THREAD_STACK_LEN) := by
  obtain ⟨h1, h2, h3, h4, _, h6, h7⟩ := E2E_stack_contains_sp ⟨ms, page, copyFromProcess mem⟩ cfg mem.byte idx n currPos isCrash sp ip m
    start bytes hp hw (copy_reads_exactly_in mem ms page m.start m.size hrd) hf hs hsp hsan hg
  exact ⟨h1, h2, h3, h4, h6, h7⟩

/-- **The stack gathering in readable memory, in closed form.** For a stack pointer in a mapping of readable pages the
    copy cannot fail, so what is gathered is what `recordStack` makes of the target's bytes of the region — whatever
    the configuration. -/
theorem gatherStack_readable (mem : TMem) (ms : List Mapping) (page : Nat) (cfg : GCfg) (idx n currPos : Nat) (isCrash : Bool)
    (sp ip : Nat) (m : Mapping)
    (hp : 0 < page) (hw : HullOk ms) (hrd : mem.allReadable m.start m.size = true)
    (hf : findMapping ms (sp - sp % page) = some m) (hs : mayBeStack (some m) = true) (hsp : sp < m.start + m.size) :
    ∃ v l, getStackInfo ms page sp = .ok (v, l) ∧
      gatherStack ⟨ms, page, copyFromProcess mem⟩ cfg idx n currPos isCrash sp ip =
        recordStack ⟨ms, page, copyFromProcess mem⟩ cfg sp ip (stackRegion cfg idx n currPos isCrash v l sp).1
          (mem.bytes (stackRegion cfg idx n currPos isCrash v l sp).1 (stackRegion cfg idx n currPos isCrash v l sp).2) := by
  obtain ⟨v, l, hgs, hv1, hv2, hv3, hv4⟩ := C06_mapped ms page sp m hp hw hf hs hsp
  obtain ⟨r1, r2, r3, r4, _, _⟩ := stackRegion_spec cfg idx n currPos isCrash v l sp ⟨hv1, hv2⟩
  have hvlo : m.start ≤ v := hv4.elim (· ▸ (findMapping_some hf).2.1) (· ▸ Nat.le_refl _)
  have hlo := Nat.le_trans hvlo r1
  refine ⟨v, l, hgs, ?_⟩
  simp only [gatherStack_eq, hgs]
  rw [copy_readable mem _ _ (Nat.pos_of_lt_add_right (Nat.lt_of_le_of_lt r3 r4))
    (allReadable_sub mem m.start m.size _ _ hrd hlo (hv3 ▸ r2))]

/-- … and such a stack *is* recorded when nothing excludes it: in readable memory the gathering succeeds with a region
    (no skipping, no sanitizing). -/
theorem E2E_stack_recorded (mem : TMem) (ms : List Mapping) (page : Nat) (limit : Option Nat) (idx n currPos : Nat) (isCrash : Bool)
    (sp ip : Nat) (m : Mapping)
    (hp : 0 < page) (hw : HullOk ms) (hrd : mem.allReadable m.start m.size = true)
    (hf : findMapping ms (sp - sp % page) = some m) (hs : mayBeStack (some m) = true) (hsp : sp < m.start + m.size) :
    ∃ start bytes, gatherStack ⟨ms, page, copyFromProcess mem⟩ ⟨limit, false, false, none⟩ idx n currPos isCrash sp ip =
      .ok (some (start, bytes)) := by
  obtain ⟨v, l, _, hg⟩ := gatherStack_readable mem ms page ⟨limit, false, false, none⟩ idx n currPos isCrash sp ip m hp hw hrd hf hs hsp
  exact ⟨_, _, hg.trans (recordStack_ok_some.mpr ⟨rfl, rfl, rfl⟩)⟩

end Mdw
