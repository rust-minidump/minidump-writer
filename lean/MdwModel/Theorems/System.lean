/-
  Theorems about the dump request as one function (Model/System.lean): from the observed state of the target to the
  bytes of the image. Each composes the gathering theorems (EndToEnd, EndToEndMem) with the whole-image theorems
  (Image) and, for the builder level, the composition theorem (Compose).
-/
import MdwModel.Model.System
import MdwModel.Generated.Source
import MdwModel.Theorems.EndToEndMem
import MdwModel.Theorems.Compose
namespace Mdw

/-- **What a successful request is.** The image is `dumpBytes` of the content assembled from the gathered threads and
    application regions; every field of that content other than these two is the observed state's or the request's. -/
theorem systemDump_inv {s : SysState} {r : Request} {img : Bytes} (h : systemDump s r = .ok img) :
    ∃ threads app, gatherThreads s.env r.cfg (r.crash.map (·.2)) r.blamed s.numWriters s.threads = .ok threads ∧
      gatherApp s.mem r.app = .ok app ∧
      gatherDump s r = .ok (contentOf s r threads app) ∧ img = dumpBytes (contentOf s r threads app) := by
  rw [systemDump_eq] at h
  obtain ⟨d, hd, h⟩ := Outcome.bind_eq_ok.mp h
  cases h
  obtain ⟨threads, hth, hd'⟩ := Outcome.bind_eq_ok.mp (gatherDump_eq s r ▸ hd)
  obtain ⟨app, happ, hd'⟩ := Outcome.bind_eq_ok.mp hd'
  cases hd'
  exact ⟨threads, app, hth, happ, hd, rfl⟩

/-- … and its thread at list position `k` is what `gatherThread` made of the `k`-th attached thread, gathered at that
    position with the limit decision taken behind the record array. -/
theorem systemDump_thread {s : SysState} {r : Request} {img : Bytes} (h : systemDump s r = .ok img)
    {k : Nat} {t : TInfo} (hk : s.threads[k]? = some t) :
    ∃ threads app dt, gatherDump s r = .ok (contentOf s r threads app) ∧ img = dumpBytes (contentOf s r threads app) ∧
      threads.map (·.tid) = s.threads.map (·.tid) ∧ threads[k]? = some dt ∧
      gatherThread s.env r.cfg (r.crash.map (·.2)) r.blamed k s.threads.length s.threadsEnd t = .ok dt := by
  obtain ⟨threads, app, hth, _, hd, hi⟩ := systemDump_inv h
  obtain ⟨_, htids, hget⟩ := E2E_threads _ _ _ _ _ _ _ hth
  obtain ⟨dt, hdk, hgt⟩ := hget k t hk
  exact ⟨threads, app, dt, hd, hi, htids, hdk, hgt⟩

theorem gatherDump_ok (s : SysState) (r : Request) (d : DumpIn) (h : gatherDump s r = .ok d) :
    gatherThreads ⟨s.ms, s.page, copyFromProcess s.mem⟩ r.cfg (r.crash.map (·.2)) r.blamed s.numWriters s.threads = .ok d.threads ∧
    gatherApp s.mem r.app = .ok d.app ∧
    d.numWriters = s.numWriters ∧ d.blamed = r.blamed ∧ d.crash = r.crash.map (·.1) ∧
    d.standalone = (r.crash.map (·.2.ctx)).getD [] ∧ d.modules = s.modules ∧ d.names = s.names := by
  rw [gatherDump_eq] at h
  obtain ⟨threads, hth, h⟩ := Outcome.bind_eq_ok.mp h
  obtain ⟨app, happ, h⟩ := Outcome.bind_eq_ok.mp h
  cases h
  exact ⟨hth, happ, rfl, rfl, rfl, rfl, rfl, rfl⟩

theorem systemDump_ok (s : SysState) (r : Request) (img : Bytes) (h : systemDump s r = .ok img) :
    ∃ d, gatherDump s r = .ok d ∧ img = dumpBytes d := by
  obtain ⟨threads, app, _, _, hd, himg⟩ := systemDump_inv h
  exact ⟨_, hd, himg⟩

theorem blamed_last {threads : List DThread} {ts : List TInfo} (htids : threads.map (·.tid) = ts.map (·.tid))
    {k blamed : Nat} (huniq : ∀ j t', k < j → ts[j]? = some t' → t'.tid ≠ blamed) :
    ∀ j t', k < j → threads[j]? = some t' → t'.tid ≠ blamed := by
  intro j t' hj hj'
  have hm : (ts.map (·.tid))[j]? = some t'.tid := by rw [← htids, List.getElem?_map, hj']; rfl
  rw [List.getElem?_map] at hm
  obtain ⟨tj, hsj, he⟩ := Option.map_eq_some_iff.mp hm
  exact he ▸ huniq j tj hj hsj

theorem Request.other_of {r : Request} {t : TInfo} (h : r.crash = none ∨ t.tid ≠ r.blamed) :
    r.crash.map (·.2) = none ∨ t.tid ≠ r.blamed :=
  h.imp_left fun h => by rw [h]; rfl

/-- **The builder agrees.** What the operations of `generate_dump` (header and directory reserved, the eighteen writers
    in order over the buffer operations of C16, each directory entry set into its slot) leave in the buffer for the
    gathered content is the image `systemDump` returns. -/
theorem System_builder (s : SysState) (r : Request) (img : Bytes) (h : systemDump s r = .ok img)
    (hN : 18 ≤ s.numWriters) (hsz : img.length < 2 ^ 32) (htid : ∀ p ∈ s.names, p.1 < 2 ^ 31) :
    ∃ d, gatherDump s r = .ok d ∧ opDump d = some img := by
  obtain ⟨threads, app, _, _, hd, rfl⟩ := systemDump_inv h
  exact ⟨_, hd, Compose_dump _ hN hsz htid⟩

/-- **Threads (C04, list construction).** One record per attached thread, in order, carrying its id. -/
theorem System_threads (s : SysState) (r : Request) (img : Bytes) (h : systemDump s r = .ok img)
    (hcnt : s.threads.length < 2 ^ 32) (k : Nat) (t : TInfo) (hk : s.threads[k]? = some t) (htid : t.tid < 2 ^ 32) :
    (Img.ofBytes img).u32 (32 + 12 * s.numWriters) = some s.threads.length ∧
    (Img.ofBytes img).u32 (32 + 12 * s.numWriters + 4 + 48 * k) = some t.tid := by
  obtain ⟨threads, app, hth, _, _, rfl⟩ := systemDump_inv h
  obtain ⟨hlen, _, hget⟩ := E2E_threads _ _ _ _ _ _ _ hth
  obtain ⟨dt, hdk, hgt⟩ := hget k t hk
  have hcount : At (dumpBytes (contentOf s r threads app)) (32 + 12 * s.numWriters) (le 4 threads.length) :=
    (threadList_at (contentOf s r threads app)).sub_head.sub_head
  obtain ⟨hr, _, _, _⟩ := Image_thread (contentOf s r threads app) k dt hdk
  have hrec : At (dumpBytes (contentOf s r threads app)) (32 + 12 * s.numWriters + 4 + 48 * k) (le 4 dt.tid) := by
    unfold threadRec at hr
    simp only [List.append_assoc] at hr
    exact hr.sub_head
  rw [hlen] at hcount
  rw [gatherThread_tid hgt] at hrec
  exact ⟨hcount.imgU32 hcnt, hrec.imgU32 htid⟩

/-- **Stacks (C06 + C07 + C17, end to end).** A thread other than the one a crash context blames, whose stack pointer
    lies in a mapping of readable pages, with sanitization off: if the image records a stack for it, the record's range
    contains the stack pointer and ends inside the mapping, the image bytes at the recorded location are the target's memory
    at the recorded addresses, and the memory list's blocks contain the same (address, length, location). Without a
    limit — or at a list position below 20 — the range reaches the mapping's end. -/
theorem System_stack (s : SysState) (r : Request) (img : Bytes) (h : systemDump s r = .ok img)
    (hsz : img.length < 2 ^ 32) (k : Nat) (t : TInfo) (hk : s.threads[k]? = some t) (htid : t.tid < 2 ^ 32)
    (hother : r.crash = none ∨ t.tid ≠ r.blamed)
    (m : Mapping) (hp : 0 < s.page) (hw : HullOk s.ms) (hrd : s.mem.allReadable m.start m.size = true)
    (hf : findMapping s.ms (t.sp - t.sp % s.page) = some m) (hs : mayBeStack (some m) = true) (hsp : t.sp < m.start + m.size)
    (h64 : m.start + m.size < 2 ^ 64) (hns : r.cfg.sanitize = false) :
    ∃ d dt, gatherDump s r = .ok d ∧ d.threads[k]? = some dt ∧
      ∀ start bytes, dt.stack = some (start, bytes) →
        start ≤ t.sp ∧ t.sp < start + bytes.length ∧ start + bytes.length ≤ m.start + m.size ∧
        (Img.ofBytes img).u64 (32 + 12 * s.numWriters + 4 + 48 * k + 24) = some start ∧
        (Img.ofBytes img).u32 (32 + 12 * s.numWriters + 4 + 48 * k + 32) = some bytes.length ∧
        (Img.ofBytes img).u32 (32 + 12 * s.numWriters + 4 + 48 * k + 36) = some (threadPos d k) ∧
        (Img.ofBytes img).bytes (threadPos d k) bytes.length = some (s.mem.bytes start bytes.length) ∧
        (⟨start, bytes.length, threadPos d k⟩ : Desc) ∈ (acc3 d).blocks ∧
        ((r.cfg.limit = none ∨ k < 20) → start + bytes.length = m.start + m.size) := by
  obtain ⟨threads, app, dt, hd, rfl, _, hdk, hgt⟩ := systemDump_thread h hk
  refine ⟨_, dt, hd, hdk, fun start bytes hst => ?_⟩
  obtain ⟨htid', _, _, _, _, hgs⟩ := E2E_other_thread _ _ _ _ _ _ _ t dt (Request.other_of hother) hgt
  rw [hst] at hgs
  -- unsanitized: the record is the copy, the copy the target's memory of the recorded range
  obtain ⟨raw, hraw, _, h1, h2, h3, _, hb, _, h5, _⟩ := gatherStack_mapped s.env r.cfg s.mem.byte k s.threads.length _ false t.sp t.ip m
    start bytes hp hw (copy_reads_exactly_in s.mem s.ms s.page m.start m.size hrd) hf hs hsp hgs
  obtain rfl := hb hns
  obtain ⟨i1, i2, i3, i4, i5⟩ := E2E_stack_in_image _ k dt start bytes hdk hst hsz (htid' ▸ htid)
    (Nat.lt_of_le_of_lt h1 (Nat.lt_trans hsp h64))
  have hbytes : s.mem.bytes start bytes.length = bytes := hraw.symm
  refine ⟨h1, h2, h3, i1, i2, i3, by rw [hbytes]; exact i4, i5, fun hl => (h5 ?_).1⟩
  exact C06_not_shortened _ _ _ _ (hl.imp_right Or.inr)

/-- **Sanitized stacks (C12 + C06 + C17, end to end).** With sanitization on, what the image records for such a thread is
    the sanitization of the target's bytes of the recorded range, taken with the thread's stack pointer and its offset
    in that range — so the C12 theorems (zeros below the stack pointer, every word kept iff it qualifies and the
    sentinel otherwise, zero partial tail) speak about the image's bytes. -/
theorem System_stack_sanitized (s : SysState) (r : Request) (img : Bytes) (h : systemDump s r = .ok img)
    (hsz : img.length < 2 ^ 32) (k : Nat) (t : TInfo) (hk : s.threads[k]? = some t) (htid : t.tid < 2 ^ 32)
    (hother : r.crash = none ∨ t.tid ≠ r.blamed)
    (m : Mapping) (hp : 0 < s.page) (hw : WfMaps s.ms) (hrd : s.mem.allReadable m.start m.size = true)
    (hf : findMapping s.ms (t.sp - t.sp % s.page) = some m) (hs : mayBeStack (some m) = true) (hsp : t.sp < m.start + m.size)
    (hsp7 : t.sp + 7 < 2 ^ 64) (hsan : r.cfg.sanitize = true) :
    ∃ d dt, gatherDump s r = .ok d ∧ d.threads[k]? = some dt ∧
      ∀ start bytes, dt.stack = some (start, bytes) →
        start ≤ t.sp ∧ t.sp < start + bytes.length ∧
        sanitize s.ms (s.mem.bytes start bytes.length) t.sp (t.sp - start) = .ok bytes ∧
        (Img.ofBytes img).bytes (threadPos d k) bytes.length = some bytes ∧
        (∀ j, j < min (align8 (t.sp - start)) bytes.length → bytes[j]? = some 0) := by
  obtain ⟨threads, app, dt, hd, rfl, _, hdk, hgt⟩ := systemDump_thread h hk
  refine ⟨_, dt, hd, hdk, fun start bytes hst => ?_⟩
  obtain ⟨htid', _, _, _, _, hgs⟩ := E2E_other_thread _ _ _ _ _ _ _ t dt (Request.other_of hother) hgt
  rw [hst] at hgs
  -- the copy is the target's memory of the recorded range, the record its sanitization
  obtain ⟨raw, hraw, _, h1, h2, _, _, _, hb, _⟩ := gatherStack_mapped s.env r.cfg s.mem.byte k s.threads.length _ false t.sp t.ip m
    start bytes hp hw.hullOk (copy_reads_exactly_in s.mem s.ms s.page m.start m.size hrd) hf hs hsp hgs
  have hb := hb hsan
  have hpre : C12Pre s.ms (t.sp - start) := ⟨hw, Nat.lt_of_le_of_lt (Nat.add_le_add_right (Nat.sub_le t.sp start) 7) hsp7⟩
  obtain ⟨hl, hz, _⟩ := sanitize_ok hpre hb
  obtain ⟨_, _, _, i4, _⟩ := E2E_stack_in_image _ k dt start bytes hdk hst hsz (htid' ▸ htid)
    (Nat.lt_of_le_of_lt h1 (Nat.lt_of_le_of_lt (Nat.le_add_right t.sp 7) hsp7))
  have hraw' : s.mem.bytes start raw.length = raw := hraw.symm
  rw [hl, hraw']
  exact ⟨h1, h2, hb, hl ▸ i4, hl ▸ hz⟩

/-- **The crash context (C05, end to end).** With a crash context whose blamed thread is attached (list position `k`, the
    last thread with that id): the exception stream sits in directory slot 3, names the blamed thread, carries the
    supplied signal number, code and address, and its context location is where the supplied context's bytes are —
    the context of the blamed thread's own record. -/
theorem System_crash_context (s : SysState) (r : Request) (img : Bytes) (h : systemDump s r = .ok img)
    (ci : CrashInfo) (c : CrashIn) (hc : r.crash = some (ci, c))
    (k : Nat) (t : TInfo) (hk : s.threads[k]? = some t) (hb : t.tid = r.blamed)
    (huniq : ∀ j t', k < j → s.threads[j]? = some t' → t'.tid ≠ r.blamed) :
    ∃ d dt, gatherDump s r = .ok d ∧ d.threads[k]? = some dt ∧ dt.ctx = c.ctx ∧ dt.sp = c.sp ∧ dt.ip = c.ip ∧
      (dumpAcc d).dir[3]? = some ⟨ST_EXCEPTION, 168, (acc4 d).pos⟩ ∧
      At img (acc4 d).pos (serExc r.blamed ci.signo ci.code ci.addr c.ctx.length (dt.ctxRva (threadPos d k))) ∧
      At img (dt.ctxRva (threadPos d k)) c.ctx := by
  obtain ⟨threads, app, dt, hd, rfl, htids, hdk, hgt⟩ := systemDump_thread h hk
  rw [hc] at hgt
  obtain ⟨htid', hsp', hip', hctx', _, _⟩ := E2E_crash_thread _ _ c r.blamed _ _ _ t dt hb hgt
  obtain ⟨e1, e2, e3⟩ := Image_exception_listed (contentOf s r threads app) k dt hdk (htid'.trans hb) (blamed_last htids huniq)
  simp only [hc, Option.map_some, hctx'] at e2 e3
  exact ⟨_, dt, hd, hdk, hctx', hsp', hip', e1, e2, e3⟩

/-- **No crash context (C05, end to end).** Without a crash context the exception stream says "dump requested": code
    `0xFFFFFFFF`, no flags, the instruction pointer of the blamed thread (the last attached with that id) as the
    address, and the context of the blamed thread's own record (what ptrace reported for it). -/
theorem System_dump_requested (s : SysState) (r : Request) (img : Bytes) (h : systemDump s r = .ok img)
    (hc : r.crash = none)
    (k : Nat) (t : TInfo) (hk : s.threads[k]? = some t) (hb : t.tid = r.blamed)
    (huniq : ∀ j t', k < j → s.threads[j]? = some t' → t'.tid ≠ r.blamed) :
    ∃ d dt, gatherDump s r = .ok d ∧ d.threads[k]? = some dt ∧ dt.ctx = t.ctx ∧
      (dumpAcc d).dir[3]? = some ⟨ST_EXCEPTION, 168, (acc4 d).pos⟩ ∧
      At img (acc4 d).pos (serExc r.blamed DUMP_REQUESTED 0 t.ip t.ctx.length (dt.ctxRva (threadPos d k))) ∧
      At img (dt.ctxRva (threadPos d k)) t.ctx := by
  obtain ⟨threads, app, dt, hd, rfl, htids, hdk, hgt⟩ := systemDump_thread h hk
  obtain ⟨htid', _, hip', hctx', _, _⟩ := E2E_other_thread _ _ _ _ _ _ _ t dt (Request.other_of (Or.inl hc)) hgt
  obtain ⟨e1, e2, e3⟩ := Image_exception_listed (contentOf s r threads app) k dt hdk (htid'.trans hb) (blamed_last htids huniq)
  simp only [hc, Option.map_none, hctx', hip'] at e2 e3
  exact ⟨_, dt, hd, hdk, hctx', e1, e2, e3⟩

/-- **Proof obligation over the regenerated source.** `gatherApp` records, for every region, what was copied: the
    descriptor in `app_memory::write` is the location of the copied bytes (or the writer is no longer recognisable). -/
theorem gatherApp_descriptor_agrees : Src.appDescriptorOfCopy = none ∨ Src.appDescriptorOfCopy = some true := by decide

theorem gatherApp_get (mem : TMem) (app : List (Nat × Nat)) (out : List (Nat × Bytes)) (h : gatherApp mem app = .ok out) :
    out.length = app.length ∧
    ∀ (j a n : Nat), app[j]? = some (a, n) → ∃ b, out[j]? = some (a, b) ∧ copyFromProcess mem a n = some b := by
  rw [gatherApp_eq mem app 0] at h
  obtain ⟨hl, hget⟩ := Outcome.forIdx_ok h
  refine ⟨hl, fun j a n hj => ?_⟩
  obtain ⟨p, hp, hc⟩ := hget j (a, n) hj
  simp only at hc
  split at hc
  · cases hc
  · rename_i b hb
    cases hc
    exact ⟨b, hp, hb⟩

/-- **Application regions (C07, end to end).** Every requested region of readable memory is in the memory list's blocks
    with exactly the requested address and length, and the image holds the target's bytes for it. -/
theorem System_app (s : SysState) (r : Request) (img : Bytes) (h : systemDump s r = .ok img)
    (j a n : Nat) (hj : r.app[j]? = some (a, n)) (hn : 0 < n) (hrd : s.mem.allReadable a n = true) :
    ∃ d, gatherDump s r = .ok d ∧
      (⟨a, n, (acc2 d).pos + appOff d.app j⟩ : Desc) ∈ (acc3 d).blocks ∧
      At img ((acc2 d).pos + appOff d.app j) (s.mem.bytes a n) ∧
      (dumpAcc d).dir[2]? = some ⟨ST_MEMORY_LIST, 4 + 16 * (acc3 d).blocks.length, (acc3 d).pos⟩ ∧
      At img (acc3 d).pos (memoryListStream (acc3 d).blocks) := by
  obtain ⟨threads, app, _, happ, hd, rfl⟩ := systemDump_inv h
  obtain ⟨b, hb, hcp⟩ := (gatherApp_get s.mem r.app app happ).2 j a n hj
  rw [copy_readable s.mem a n hn hrd] at hcp
  cases hcp
  obtain ⟨m1, m2⟩ := Image_app_block (contentOf s r threads app) j a _ hb
  rw [TMem.bytes_length] at m1
  obtain ⟨l1, l2⟩ := Image_memory_list (contentOf s r threads app)
  exact ⟨_, hd, m1, m2, l1, l2⟩

/-- **The window around the crash instruction pointer (C07, end to end).** With a crash context whose blamed thread is
    attached and whose instruction pointer lies in a mapping `m` of readable pages (the first mapping in list order that
    contains it): the memory list's blocks contain a region that starts at `max m.start (ip − 128)`, ends at
    `min (m.start + m.size) (ip + 128)`, sits right behind the blamed thread's stack in the image and holds the
    target's bytes. -/
theorem System_window (s : SysState) (r : Request) (img : Bytes) (h : systemDump s r = .ok img)
    (ci : CrashInfo) (c : CrashIn) (hc : r.crash = some (ci, c))
    (k : Nat) (t : TInfo) (hk : s.threads[k]? = some t) (hb : t.tid = r.blamed)
    (m : Mapping) (hm : s.ms.find? (fun m => !(decide (c.ip < m.start) || decide (c.ip ≥ m.start + m.size))) = some m)
    (hrd : s.mem.allReadable m.start m.size = true) :
    ∃ d dt lo b, gatherDump s r = .ok d ∧ d.threads[k]? = some dt ∧ dt.window = some (lo, b) ∧
      lo = max m.start (c.ip - 128) ∧ lo + b.length = min (m.start + m.size) (c.ip + 128) ∧
      b = s.mem.bytes lo b.length ∧
      (⟨lo, b.length, threadPos d k + dt.stackLen⟩ : Desc) ∈ (acc3 d).blocks ∧
      At img (threadPos d k + dt.stackLen) b := by
  obtain ⟨threads, app, dt, hd, rfl, _, hdk, hgt⟩ := systemDump_thread h hk
  rw [hc] at hgt
  obtain ⟨_, _, _, _, _, hw⟩ := E2E_crash_thread _ _ c r.blamed _ _ _ t dt hb hgt
  obtain ⟨lo, b, hdw, h1, h2, h3⟩ := gatherWindow_mapped hm (copy_reads_exactly_in s.mem s.ms s.page m.start m.size hrd) hw
  have hblk := (Image_thread_block (contentOf s r threads app) k dt hdk).2 lo b hdw
  exact ⟨_, dt, lo, b, hd, hdk, hdw, h1, h2, h3, hblk.1, hblk.2⟩

/-- **Skipping unreferenced stacks (C20, end to end).** Sanitization off, skipping on or off: for a thread other than the
    crash context's whose stack pointer lies in a mapping of readable pages, the content the image is built from
    (`gatherDump`; the statement does not speak of `img`) records its stack iff the inclusion rule (true of every stack
    when skipping is off) holds on the target's bytes of the (possibly shortened) region with the stack pointer's offset
    in that region — instruction pointer inside the principal mapping, or an aligned word at or above the stack pointer
    that points into it (`C20_include_iff`). Whether or not the stack is kept, the thread is there with its id and
    context. -/
theorem System_skip (s : SysState) (r : Request) (img : Bytes) (h : systemDump s r = .ok img)
    (k : Nat) (t : TInfo) (hk : s.threads[k]? = some t)
    (hother : r.crash = none ∨ t.tid ≠ r.blamed)
    (m : Mapping) (hp : 0 < s.page) (hw : HullOk s.ms) (hrd : s.mem.allReadable m.start m.size = true)
    (hf : findMapping s.ms (t.sp - t.sp % s.page) = some m) (hs : mayBeStack (some m) = true) (hsp : t.sp < m.start + m.size)
    (hns : r.cfg.sanitize = false) :
    ∃ d dt v l, gatherDump s r = .ok d ∧ d.threads[k]? = some dt ∧ dt.tid = t.tid ∧ dt.ctx = t.ctx ∧
      getStackInfo s.ms s.page t.sp = .ok (v, l) ∧
      (dt.stack = none ↔
        includeStack r.cfg.skip r.cfg.principal t.ip
          (s.mem.bytes (capRegion v l t.sp (maxStackLen r.cfg.limit (extraLimit r.cfg.limit s.threads.length
              (32 + 12 * s.numWriters + 4 + 48 * s.threads.length)) k false)).1
            (capRegion v l t.sp (maxStackLen r.cfg.limit (extraLimit r.cfg.limit s.threads.length
              (32 + 12 * s.numWriters + 4 + 48 * s.threads.length)) k false)).2)
          (t.sp - (capRegion v l t.sp (maxStackLen r.cfg.limit (extraLimit r.cfg.limit s.threads.length
              (32 + 12 * s.numWriters + 4 + 48 * s.threads.length)) k false)).1) = false) := by
  obtain ⟨threads, app, dt, hd, _, _, hdk, hgt⟩ := systemDump_thread h hk
  obtain ⟨htid', _, _, hctx', _, hgs⟩ := E2E_other_thread _ _ _ _ _ _ _ t dt (Request.other_of hother) hgt
  -- in readable memory the gathering is the recording of the target's bytes of the region
  obtain ⟨v, l, hgi, hrec⟩ := gatherStack_readable s.mem s.ms s.page r.cfg k s.threads.length s.threadsEnd false t.sp t.ip m
    hp hw hrd hf hs hsp
  refine ⟨_, dt, v, l, hd, hdk, htid', hctx', hgi, ?_⟩
  rw [← recordStack_ok_none (env := s.env), ← hrec, hgs]
  exact ⟨fun h => by rw [h], Outcome.ok.inj⟩

/-- **Thread names (C15, end to end).** The `j`-th entry of the observed state's name list (`SysState.names`, a field
    of its own: nothing relates it to `threads`) has record `j` of the thread-names stream: its id, and the location of
    its own name string, which follows the records. -/
theorem System_name (s : SysState) (r : Request) (img : Bytes) (h : systemDump s r = .ok img)
    (j tid : Nat) (us : List Nat) (hj : s.names[j]? = some (tid, us)) :
    ∃ d, gatherDump s r = .ok d ∧
      At img (acc16 d).pos (le 4 s.names.length) ∧
      At img ((acc16 d).pos + 4 + 12 * j) (nameRecord tid ((acc16 d).pos + 4 + 12 * s.names.length + nameOff s.names j)) ∧
      At img ((acc16 d).pos + 4 + 12 * s.names.length + nameOff s.names j) (mdStr us) := by
  obtain ⟨threads, app, _, _, hd, rfl⟩ := systemDump_inv h
  exact ⟨_, hd, Image_name (contentOf s r threads app) j tid us hj⟩

/-- **Modules (C08, end to end).** When the module content is the module list the mappings writer gathers over the
    target's aggregated mappings (`Mod.moduleList`), every interesting mapping that no caller mapping covers and that has
    a usable identifier has its record in the image's module list: base, size, CodeView record at the location the
    record names, name string behind it. -/
theorem System_module (s : SysState) (r : Request) (img : Bytes) (h : systemDump s r = .ok img)
    (decode : Bytes → List Char) (utf16 : Bytes → List Nat)
    (facts : Mapping → Mod.Facts) (us : Mod.UserMap → Option Bytes) (users : List Mod.UserMap)
    (hmods : s.modules = (Mod.moduleList decode s.ms facts us users).map (toDModule utf16))
    (m : Mapping) (hm : m ∈ s.ms) (hi : Mod.isInteresting m = true) (hc : Mod.isContainedIn m users = false)
    (hid : Mod.idUsable (Mod.identifierOf (facts m)) = true) :
    ∃ d k dm, gatherDump s r = .ok d ∧ d.modules[k]? = some dm ∧
      dm.base = m.start ∧ dm.size = m.size % 2 ^ 32 ∧ dm.ident = Mod.identifierOf (facts m) ∧
      dm.name = utf16 (Mod.effectivePath m (Mod.sonameOf (facts m))) ∧
      At img ((acc1 d).pos + (moduleBlobs d.modules).length + 4 + 108 * k) (moduleRec (modulePos d k) dm) ∧
      At img (modulePos d k) (le 4 0x4270454c ++ dm.ident) ∧
      At img (modulePos d k + (4 + dm.ident.length)) (mdStr dm.name) := by
  obtain ⟨threads, app, _, _, hd, rfl⟩ := systemDump_inv h
  obtain ⟨k, dm, h1, h2, h3, h4, h5, _, _, h8, h9, h10⟩ :=
    E2E_module_in_image decode utf16 (contentOf s r threads app) s.ms facts us users hmods m hm hi hc hid
  exact ⟨_, k, dm, hd, h1, h2, h3, h4, h5, h8, h9, h10⟩

/-- a one-thread target: a guard page below a one-page stack mapping of readable memory -/
def sysExample : SysState where
  numWriters := 18
  timestamp := 0
  ms := [⟨0x10000, 0x1000, 0x10000, 0x11000, 0, 16, none⟩, ⟨0x11000, 0x1000, 0x11000, 0x12000, 0, 3 + 16, none⟩]
  page := 4096
  mem := ⟨4096, fun p => if p == 0x11 then some true else none, fun a => UInt8.ofNat (a % 251)⟩
  threads := [⟨7, 0x11f00, 0x400000, []⟩]
  modules := []
  sys := ⟨0, 0, 0, 1, 0, [], []⟩
  memInfo := []
  cpuinfo := none
  status := none
  lsb := none
  cmdline := none
  environ := none
  auxv := none
  maps := none
  dso := .failed []
  limits := none
  names := []
  handles := .failed []
  soft := none

/-- a crash context blaming that thread, one application region inside the stack page -/
def reqExample : Request := ⟨⟨none, false, false, none⟩, 7, some (⟨11, 1, 0⟩, ⟨0x11f80, 0x400000, []⟩), [(0x11100, 16)]⟩

/-- Non-vacuity of `systemDump s r = .ok img`, the hypothesis all `System_*` theorems share: the request succeeds on an
    evaluated instance (one thread, the one the crash context blames, and one readable application region). Nothing
    else is evaluated here. -/
example : (match systemDump sysExample reqExample with | .ok _ => true | _ => false) = true := by decide +kernel

end Mdw
