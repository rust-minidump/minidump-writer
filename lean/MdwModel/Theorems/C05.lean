/-
  C05 — Crash attribution matches what the caller supplied

    C05_context_registers   for every ucontext / fpstate, the general-purpose registers, the flags, CS / GS / FS,
                            the x87 control, status and opcode words, MXCSR with its mask and the two register
                            blocks of the supplied context sit at their WinNT CONTEXT offsets in the serialised
                            record
    C05_fields_crash / _nocrash, C05_record_layout, C05_image_listed / _unlisted
                            with a crash context the record carries (signal number, signal code, fault
                            address), names the blamed thread and points at the blamed thread's
                            context (or, if that thread is not listed, at a context written for the
                            purpose); without one it says DUMP_REQUESTED with the blamed thread's
                            instruction pointer and captured context
    C05_refine_exception    the exception writer's builder operations produce its stage of the image
-/
import MdwModel.Theorems.CtxLayout
import MdwModel.Model.Exception
import MdwModel.Theorems.Image
import MdwModel.Theorems.Refine
namespace Mdw

/-- a supplied ucontext / fpstate with values in their machine ranges -/
structure UctxOk (g : List Nat) (f : FpState) : Prop where
  g64 : ∀ i, greg g i < 2 ^ 64
  cwd : f.cwd < 2 ^ 16
  swd : f.swd < 2 ^ 16
  fop : f.fop < 2 ^ 16
  mxcsr : f.mxcsr < 2 ^ 32
  mask : f.mxcrMask < 2 ^ 32

theorem fits_of_uctx (g : List Nat) (f : FpState) (h : UctxOk g f) : (fillCtxFromUcontext g f).Fits := by
  have hg := h.g64
  constructor <;> simp only [fillCtxFromUcontext] <;>
    first
      | exact hg _
      | exact h.cwd | exact h.swd | exact h.fop | exact h.mxcsr | exact h.mask
      | (apply Nat.mod_lt; decide)
      | decide

/-- **C05 (registers).** -/
theorem C05_context_registers (g : List Nat) (f : FpState) (h : UctxOk g f) :
    let ctx := serCtx (fillCtxFromUcontext g f)
    fieldAt ctx OFF.rax 8 = greg g REG_RAX ∧ fieldAt ctx OFF.rcx 8 = greg g REG_RCX ∧
    fieldAt ctx OFF.rdx 8 = greg g REG_RDX ∧ fieldAt ctx OFF.rbx 8 = greg g REG_RBX ∧
    fieldAt ctx OFF.rsp 8 = greg g REG_RSP ∧ fieldAt ctx OFF.rbp 8 = greg g REG_RBP ∧
    fieldAt ctx OFF.rsi 8 = greg g REG_RSI ∧ fieldAt ctx OFF.rdi 8 = greg g REG_RDI ∧
    fieldAt ctx OFF.r8 8 = greg g REG_R8 ∧ fieldAt ctx OFF.r9 8 = greg g REG_R9 ∧
    fieldAt ctx OFF.r10 8 = greg g REG_R10 ∧ fieldAt ctx OFF.r11 8 = greg g REG_R11 ∧
    fieldAt ctx OFF.r12 8 = greg g REG_R12 ∧ fieldAt ctx OFF.r13 8 = greg g REG_R13 ∧
    fieldAt ctx OFF.r14 8 = greg g REG_R14 ∧ fieldAt ctx OFF.r15 8 = greg g REG_R15 ∧
    fieldAt ctx OFF.rip 8 = greg g REG_RIP ∧
    fieldAt ctx OFF.eflags 4 = greg g REG_EFL % 2 ^ 32 ∧
    fieldAt ctx OFF.segCs 2 = greg g REG_CSGSFS % 65536 ∧
    fieldAt ctx OFF.segGs 2 = (greg g REG_CSGSFS / 2 ^ 16) % 65536 ∧
    fieldAt ctx OFF.segFs 2 = (greg g REG_CSGSFS / 2 ^ 32) % 65536 ∧
    fieldAt ctx OFF.fsControlWord 2 = f.cwd ∧ fieldAt ctx OFF.fsStatusWord 2 = f.swd ∧
    fieldAt ctx OFF.fsErrorOpcode 2 = f.fop ∧ fieldAt ctx OFF.fsMxCsr 4 = f.mxcsr ∧
    fieldAt ctx OFF.fsMxCsrMask 4 = f.mxcrMask ∧
    sliceAt ctx OFF.fsFloatRegisters 128 = padTo 128 f.st ∧
    sliceAt ctx OFF.fsXmmRegisters 256 = padTo 256 f.xmm ∧ ctx.length = 1232 := by
  intro ctx
  have o := ctx_offsets (fillCtxFromUcontext g f) (fits_of_uctx g f h)
  exact ⟨o.rax, o.rcx, o.rdx, o.rbx, o.rsp, o.rbp, o.rsi, o.rdi, o.r8, o.r9, o.r10, o.r11, o.r12, o.r13, o.r14, o.r15, o.rip,
    o.eflags, o.cs, o.gs, o.fs, o.cwd, o.swd, o.fop, o.mxcsr, o.mxcrMask, o.st, o.xmm, o.length⟩

/-- **C05 (exception record layout).** thread id, code, flags, address and context location sit
    at their MINIDUMP_EXCEPTION_STREAM offsets. -/
theorem C05_record_layout (blamed code flags addr c1 c2 : Nat)
    (hb : blamed < 2 ^ 32) (h1 : code < 2 ^ 32) (h2 : flags < 2 ^ 32) (h3 : addr < 2 ^ 64)
    (h4 : c1 < 2 ^ 32) (h5 : c2 < 2 ^ 32) :
    let t := serExc blamed code flags addr c1 c2
    t.length = 168 ∧ fieldAt t 0 4 = blamed ∧ fieldAt t 8 4 = code ∧ fieldAt t 12 4 = flags ∧
    fieldAt t 24 8 = addr ∧ fieldAt t 160 4 = c1 ∧ fieldAt t 164 4 = c2 := by
  intro t
  have r := At.whole t
  conv at r => arg 3; simp only [t, serExc, ↓ List.append_assoc]
  obtain ⟨f0, r⟩ := r.fieldNext (k := 4) hb
  have r := r.next 4 (le_length _ _)
  obtain ⟨f8, r⟩ := r.fieldNext (k := 4) h1
  obtain ⟨f12, r⟩ := r.fieldNext (k := 4) h2
  have r := r.next 8 (le_length _ _)
  obtain ⟨f24, r⟩ := r.fieldNext (k := 8) h3
  have r := ((r.next 4 (le_length _ _)).next 4 (le_length _ _)).next 120 (zeros_length _)
  obtain ⟨f160, r⟩ := r.fieldNext (k := 4) h4
  obtain ⟨f164, -⟩ := r.fieldNext (k := 4) h5
  exact ⟨serExc_length .., f0, f8, f12, f24, f160, f164⟩

/-- **C05 (with a crash context).** code = signal number, flags = signal code, address = fault
    address; the context is the blamed thread's thread-list context when it is listed, else the
    context written for the purpose. -/
theorem C05_fields_crash (c : CrashInfo) (ctc : CTC) (sa : Nat × Nat) :
    excFields (some c) ctc sa =
      (c.signo, c.code, c.addr,
        (match ctc with | .crashContext l => l | .crashContextPlusAddress l _ => l | .none => sa).1,
        (match ctc with | .crashContext l => l | .crashContextPlusAddress l _ => l | .none => sa).2) := by
  cases ctc <;> rfl

/-- **C05 (without a crash context).** 'dump requested', the blamed thread's instruction pointer
    and its captured context. -/
theorem C05_fields_nocrash (l : Nat × Nat) (ip : Nat) (sa : Nat × Nat) :
    excFields none (.crashContextPlusAddress l ip) sa = (DUMP_REQUESTED, 0, ip, l.1, l.2) ∧
    excFields none .none sa = (DUMP_REQUESTED, 0, 0, 0, 0) := ⟨rfl, rfl⟩

example : UctxOk [1, 2, 3] ⟨0x37f, 0, 0, 0, 0, 0, 0x1f80, 0xffff, [], []⟩ := by
  constructor <;> first | decide | (intro i; simp [greg]; rcases i with _ | _ | _ | _ | i <;> simp <;> omega)

/-- **C05 (image: blamed thread listed).** `t` the last thread in the list with the blamed id: the exception stream
    (directory slot 3) names the blamed thread, carries
    the supplied signal number, code and address — or "dump requested" and the thread's instruction pointer — and
    points at the location of the blamed thread's thread-list context, where that context's bytes are -/
theorem C05_image_listed (d : DumpIn) (k : Nat) (t : DThread) (hk : d.threads[k]? = some t) (ht : t.tid = d.blamed)
    (hlast : ∀ j t', k < j → d.threads[j]? = some t' → t'.tid ≠ d.blamed) :
    let loc := (t.ctx.length, t.ctxRva (threadPos d k))
    let f := match d.crash with
      | some c => (c.signo, c.code, c.addr)
      | none => (DUMP_REQUESTED, 0, t.ip)
    (dumpAcc d).dir[3]? = some ⟨ST_EXCEPTION, 168, (acc4 d).pos⟩ ∧
    At (dumpBytes d) (acc4 d).pos (serExc d.blamed f.1 f.2.1 f.2.2 loc.1 loc.2) ∧
    At (dumpBytes d) loc.2 t.ctx := Image_exception_listed d k t hk ht hlast

/-- **C05 (image: crash context, blamed thread not listed).** the supplied context is kept: written for the exception stream, which
    points at it -/
theorem C05_image_unlisted (d : DumpIn) (c : CrashInfo) (hc : d.crash = some c) (hno : ∀ t ∈ d.threads, t.tid ≠ d.blamed) :
    At (dumpBytes d) (acc4 d).pos d.standalone ∧
    At (dumpBytes d) ((acc4 d).pos + d.standalone.length)
      (serExc d.blamed c.signo c.code c.addr d.standalone.length (acc4 d).pos) := Image_exception_unlisted d c hc hno

/-- **C05 (the writer refines the image model).** the builder operations of `exception_stream::write` produce exactly
    the exception stage of the image model, for every buffer state and content -/
theorem C05_refine_exception (d : DumpIn) (a : Acc) (pre : Bytes) (hpre : pre.length = a.base)
    (hb : a.pos + (if needsStandalone d then d.standalone.length else 0) + 168 < 2 ^ 32) :
    opException (a.bufOf pre) d.crash d.blamed (ctcOf d) d.standalone =
      some ((stException d a).bufOf pre, ⟨ST_EXCEPTION, 168, a.pos + (if needsStandalone d then d.standalone.length else 0)⟩) := by
  have hlen : (a.bufOf pre).len = a.pos := by simp [Acc.bufOf, Buf.len, Acc.pos, hpre]
  have := Refine_exception d (a.bufOf pre) (by rw [hlen, apply_ite List.length]; exact hb)
  rw [hlen] at this
  simpa [stException, Acc.add, Acc.publish, Acc.bufOf, List.append_assoc, apply_ite List.length] using this

end Mdw
