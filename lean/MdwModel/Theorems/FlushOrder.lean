/- `write_to_file` sends the pending image bytes first and the directory entry after them. If the destination refuses
   the pending bytes the request aborts there: the directory — in the image and in the destination — is as it was, no
   entry has become visible for a stream that did not arrive. In the model (`writeToFile`, Model/DirSection.lean) that is
   the order of the two steps; that it is the code's order as well is a regenerated source fact
   (`Src.flushBeforeEntry`; false under the seed C09_r19, which publishes the entry first). -/
import MdwModel.Lemmas.DirSection
import MdwModel.Generated.Source
namespace Mdw

theorem FlushOrder_source_agrees : Src.flushBeforeEntry = none ∨ Src.flushBeforeEntry = some true := by decide

/-- a refused flush leaves the image, the slot cursor and the directory section untouched, and the destination has
    seen nothing but (a part of) the pending bytes: no directory entry was written -/
theorem FlushOrder_failed_flush (sc : Script) (s : DS) (e : Bytes) (hle : ¬ s.dir.lastWritten > s.buf.len)
    (hf : (s.dest.writeAll sc (s.buf.inner.drop s.dir.lastWritten)).2 = false) :
    writeToFile sc s (some e) =
      some (⟨s.buf, (s.dest.writeAll sc (s.buf.inner.drop s.dir.lastWritten)).1, s.dir⟩, false) := by
  rw [writeToFile_eq sc s _ (Nat.le_of_not_lt hle), hf, if_neg Bool.false_ne_true]

/-- an accepted flush is followed by the entry, handed to `dump_dir_entry` on the state in which everything appended so
    far counts as written -/
theorem FlushOrder_then_entry (sc : Script) (s : DS) (e : Bytes) (hle : ¬ s.dir.lastWritten > s.buf.len)
    (hf : (s.dest.writeAll sc (s.buf.inner.drop s.dir.lastWritten)).2 = true) :
    writeToFile sc s (some e) =
      dumpDirEntry sc ⟨s.buf, (s.dest.writeAll sc (s.buf.inner.drop s.dir.lastWritten)).1,
        { s.dir with lastWritten := s.buf.len }⟩ e := by
  rw [writeToFile_eq sc s _ (Nat.le_of_not_lt hle), hf, if_pos rfl]

end Mdw
