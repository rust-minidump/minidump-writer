/-
  C20 — Unreferenced-stack filtering keeps exactly the relevant stacks
        (stack_has_pointer_to_mapping + the inclusion rule of fill_thread_stack, after the repair)

    C20_scan_iff        the scan answers true iff some pointer-aligned word at or above the
                        (aligned) stack-pointer offset, wholly inside the copy, holds an address
                        inside the principal mapping's half-open system range
    C20_include_iff     a stack is included iff skipping is off, or a principal mapping exists and
                        (IP inside it or the scan finds a pointer)
    C20_no_principal    skipping on and no principal mapping → every stack is excluded
    C20_legacy_counterexample   the inclusive comparison of the unrepaired code
-/
import MdwModel.Lemmas.Stack
namespace Mdw

/-- word `k` of the scan (slot at `align8 spOff + 8k`) exists -/
def slotInside (stack : Bytes) (spOff k : Nat) : Prop := align8 spOff + 8 * k + 8 ≤ stack.length

def slotWord (stack : Bytes) (spOff k : Nat) : Nat := unle ((stack.drop (align8 spOff + 8 * k)).take 8)

/-- **C20 (scan).** -/
theorem C20_scan_iff (low high : Nat) (stack : Bytes) (spOff : Nat) :
    stackHasPointer low high stack spOff = true ↔
      ∃ k, slotInside stack spOff k ∧ low ≤ slotWord stack spOff k ∧ slotWord stack spOff k < high := by
  have hk : ∀ k, k < (stack.length - align8 spOff) / 8 ↔ align8 spOff + 8 * k + 8 ≤ stack.length :=
    fun k => ⟨fun h => by omega, fun h => by omega⟩
  simp only [stackHasPointer, slotInside, slotWord, wordsOf_drop, List.any_map, List.any_eq_true, List.mem_range,
    Function.comp, Bool.and_eq_true, decide_eq_true_eq, hk]

/-- **C20 (inclusion rule).** -/
theorem C20_include_iff (skip : Bool) (principal : Option (Nat × Nat)) (ip : Nat) (stack : Bytes) (spOff : Nat) :
    includeStack skip principal ip stack spOff = true ↔
      skip = false ∨ ∃ low high, principal = some (low, high) ∧
        ((low ≤ ip ∧ ip < high) ∨
          ∃ k, slotInside stack spOff k ∧ low ≤ slotWord stack spOff k ∧ slotWord stack spOff k < high) := by
  unfold includeStack
  cases skip with
  | false => simp
  | true =>
    cases principal with
    | none => simp
    | some p =>
      obtain ⟨low, high⟩ := p
      simp only [if_true, Bool.or_eq_true, Bool.and_eq_true, decide_eq_true_eq, C20_scan_iff]
      constructor
      · intro h; exact Or.inr ⟨low, high, rfl, h⟩
      · rintro (h | ⟨_, _, ⟨⟩, h⟩)
        · cases h
        · exact h

/-- **C20 (no principal mapping).** -/
theorem C20_no_principal (ip : Nat) (stack : Bytes) (spOff : Nat) :
    includeStack true none ip stack spOff = false := rfl

def stackHasPointerLegacy (low high : Nat) (stack : Bytes) (spOff : Nat) : Bool :=
  let body := stack.drop (align8 spOff)
  (wordsOf (body.length / 8 + 1) body).any (fun w => low ≤ w && w ≤ high)

/-- **Counterexample (pre-repair).** A stack whose only word equals the end address of the
    principal mapping [0x1000, 0x2000): not a pointer into the mapping, yet the legacy scan says
    it is. -/
theorem C20_legacy_counterexample :
    stackHasPointerLegacy 0x1000 0x2000 (le 8 0x2000) 0 = true ∧
    stackHasPointer 0x1000 0x2000 (le 8 0x2000) 0 = false := by decide

example : stackHasPointer 0x1000 0x2000 ([9, 9, 9] ++ zeros 5 ++ le 8 0x1fff ++ [1]) 3 = true := by decide

end Mdw
