/-
  C06 — Captured stacks contain the live stack
        (get_stack_info + the size-limit logic of thread_list_stream, after the repairs)

    C06_walk_total        the guard-page walk terminates within its fuel and never panics
    C06_total             get_stack_info never panics / runs out of fuel
    C06_mapped            SP in an accessible mapping → region = [page of SP or mapping start,
                          end of that mapping) ∋ SP
    C06_region_sound      any returned region lies in an accessible mapping `m` that the walk reached at a
                          position `sp1` between SP's page and the guard distance; it ends at `m`'s end and
                          starts at `sp1` or at `m`'s start
    C06_cap               shortening keeps SP inside, stays inside the uncapped region, ≤ cap
    C06_only_extra_threads_shortened   with a limit only threads at list position ≥ 20, never the
                          crash-context thread, and only when the estimate exceeds the limit,
                          to at most 2 KiB  (C06_not_shortened: the converse cases are not capped)
    C06_legacy_cap_counterexample      the defect of the unrepaired shortening
-/
import MdwModel.Lemmas.Stack
namespace Mdw

theorem guardWalk_total (ms : List Mapping) (page guardMax : Nat) (hp : 0 < page) (fuel sp : Nat)
    (hf1 : 1 ≤ fuel) (hf : sp ≤ guardMax → (guardMax - sp) / page + 2 ≤ fuel) :
    ∃ r, guardWalk ms page guardMax fuel sp = .ok r := by
  induction fuel generalizing sp with
  | zero => omega
  | succ fuel ih =>
    unfold guardWalk
    simp only
    split
    · rename_i hc
      have hf' := hf (of_decide_eq_true (Bool.and_eq_true_iff.mp hc).2)
      split
      · refine ih _ (Nat.le_of_succ_le_succ (Nat.le_of_add_left_le hf')) fun _ => ?_
        rw [show guardMax - sp = guardMax - (sp + page) + page by omega, Nat.add_div_right _ hp] at hf'
        omega
      · exact ⟨_, rfl⟩
    · exact ⟨_, rfl⟩

/-- **C06 (walk terminates).** -/
theorem C06_walk_total (ms : List Mapping) (page sp0 : Nat) (hp : 0 < page) :
    ∃ r, guardWalk ms page (min (sp0 + GUARD_DISTANCE) (2 ^ 64 - 1)) (GUARD_DISTANCE / page + 3) sp0 = .ok r := by
  refine guardWalk_total ms page _ hp _ _ (Nat.le_add_left 1 _) fun _ => ?_
  exact Nat.le_succ_of_le (Nat.add_le_add_right (Nat.div_le_div_right (by omega)) 2)

theorem guardWalk_bounds (ms : List Mapping) (page guardMax fuel sp : Nat) (r : Nat × Option Mapping)
    (h : guardWalk ms page guardMax fuel sp = .ok r) :
    sp ≤ r.1 ∧ (r.1 ≤ guardMax + page ∨ r.1 = sp) ∧ r.2 = findMapping ms r.1 := by
  induction fuel generalizing sp with
  | zero => cases h
  | succ fuel ih =>
    unfold guardWalk at h
    simp only at h
    split at h
    · rename_i hc
      have hle : sp ≤ guardMax := of_decide_eq_true (Bool.and_eq_true_iff.mp hc).2
      split at h
      · have := ih (sp + page) h
        exact ⟨by omega, .inl (by omega), this.2.2⟩
      · cases h
        exact ⟨Nat.le_refl _, .inr rfl, rfl⟩
    · cases h
      exact ⟨Nat.le_refl _, .inr rfl, rfl⟩

/-- mappings as `aggregate` produces them -/
def HullOk (ms : List Mapping) : Prop := ∀ m ∈ ms, m.start ≤ m.sysStart ∧ m.sysEnd ≤ m.start + m.size

theorem guardWalk_stop (ms : List Mapping) (page guardMax fuel sp : Nat) (h : mayBeStack (findMapping ms sp) = true) :
    guardWalk ms page guardMax (fuel + 1) sp = .ok (sp, findMapping ms sp) := by
  simp [guardWalk, h]

def regionStart (m : Mapping) (sp1 : Nat) : Nat := if m.containsAddress sp1 then sp1 else m.start

theorem regionStart_cases (m : Mapping) (sp1 : Nat) : regionStart m sp1 = sp1 ∨ regionStart m sp1 = m.start := by
  unfold regionStart; split
  · exact Or.inl rfl
  · exact Or.inr rfl

/-- `get_stack_info` read off the end of its walk: neither subtraction can underflow, because the mapping was found
    by its biased range at `sp1` -/
theorem getStackInfo_of_walk (ms : List Mapping) (page sp sp1 : Nat) (om : Option Mapping)
    (h : guardWalk ms page (min (sp - sp % page + GUARD_DISTANCE) (2 ^ 64 - 1)) (GUARD_DISTANCE / page + 3)
      (sp - sp % page) = .ok (sp1, om)) :
    getStackInfo ms page sp =
      match findMapping ms sp1 with
      | some m =>
        if mayBeStack (some m) then .ok (regionStart m sp1, m.start + m.size - regionStart m sp1)
        else .err "NoStackPointerMapping"
      | none => .err "NoStackPointerMapping" := by
  obtain rfl : om = findMapping ms sp1 := (guardWalk_bounds ms page _ _ _ _ h).2.2
  rw [getStackInfo, h]
  cases hf : findMapping ms sp1 with
  | none => rfl
  | some m =>
    obtain ⟨_, h1, h2⟩ := findMapping_some hf
    dsimp only
    cases hs : mayBeStack (some m)
    · rfl
    · have hv : m.start ≤ regionStart m sp1 ∧ regionStart m sp1 - m.start ≤ m.size := by
        rcases regionStart_cases m sp1 with e | e <;> rw [e] <;> omega
      simp only [Bool.not_true, Bool.false_eq_true, if_false, if_true]
      rw [← regionStart, if_neg (Nat.not_lt.mpr hv.1), if_neg (Nat.not_lt.mpr hv.2)]
      congr 2
      omega

/-- **C06 (totality).** -/
theorem C06_total (ms : List Mapping) (page sp : Nat) (hp : 0 < page) (hw : HullOk ms) :
    (∃ v l, getStackInfo ms page sp = .ok (v, l)) ∨ (∃ c, getStackInfo ms page sp = .err c) := by
  obtain ⟨⟨sp1, om⟩, hr⟩ := C06_walk_total ms page (sp - sp % page) hp
  rw [getStackInfo_of_walk ms page sp sp1 om hr]
  split
  · split
    · exact Or.inl ⟨_, _, rfl⟩
    · exact Or.inr ⟨_, rfl⟩
  · exact Or.inr ⟨_, rfl⟩

/-- **C06 (region soundness).** Whatever region is returned lies in an accessible mapping found
    by the page walk, ends at that mapping's end, and starts at the walk position or the
    mapping start. -/
theorem C06_region_sound (ms : List Mapping) (page sp v l : Nat) (hp : 0 < page) (hw : HullOk ms)
    (h : getStackInfo ms page sp = .ok (v, l)) :
    ∃ m ∈ ms, (m.isReadable || m.isWritable) = true ∧ m.start ≤ v ∧ v + l = m.start + m.size ∧
      ∃ sp1, sp - sp % page ≤ sp1 ∧ (v = sp1 ∨ v = m.start) ∧ m.start ≤ sp1 ∧ sp1 < m.start + m.size ∧
        (sp1 ≤ min (sp - sp % page + GUARD_DISTANCE) (2 ^ 64 - 1) + page ∨ sp1 = sp - sp % page) := by
  obtain ⟨⟨sp1, om⟩, hr⟩ := C06_walk_total ms page (sp - sp % page) hp
  obtain ⟨hb1, hb2, _⟩ := guardWalk_bounds ms page _ _ _ _ hr
  rw [getStackInfo_of_walk ms page sp sp1 om hr] at h
  split at h
  · rename_i m hf
    split at h
    · rename_i hs
      cases h
      obtain ⟨hm, h1, h2⟩ := findMapping_some hf
      have hc := regionStart_cases m sp1
      exact ⟨m, hm, hs, by omega, by omega, sp1, hb1, hc, h1, h2, hb2⟩
    · cases h
  · cases h

/-- **C06 (SP in accessible memory).** If the page of the stack pointer lies in an accessible
    mapping `m` that also contains the stack pointer, the region starts on that page (or at the
    start of `m`), contains the stack pointer and extends to the end of `m`. -/
theorem C06_mapped (ms : List Mapping) (page sp : Nat) (m : Mapping) (hp : 0 < page) (hw : HullOk ms)
    (hf : findMapping ms (sp - sp % page) = some m) (hs : mayBeStack (some m) = true)
    (hsp : sp < m.start + m.size) :
    ∃ v l, getStackInfo ms page sp = .ok (v, l) ∧ v ≤ sp ∧ sp < v + l ∧ v + l = m.start + m.size ∧
      (v = sp - sp % page ∨ v = m.start) := by
  obtain ⟨_, h1, h2⟩ := findMapping_some hf
  have hwalk := guardWalk_stop ms page (min (sp - sp % page + GUARD_DISTANCE) (2 ^ 64 - 1)) (GUARD_DISTANCE / page + 2)
    (sp - sp % page) (hf ▸ hs)
  rw [getStackInfo_of_walk ms page sp _ _ hwalk, hf]
  simp only [hs, if_true]
  have hmod : sp - sp % page ≤ sp := Nat.sub_le _ _
  have hc := regionStart_cases m (sp - sp % page)
  exact ⟨_, _, rfl, by omega, by omega, by omega, hc⟩

theorem capRegion_ge (v l sp : Nat) (cap : Option Nat) : v ≤ (capRegion v l sp cap).1 := by
  unfold capRegion
  split
  · split
    · exact Nat.le_add_right _ _
    · exact Nat.le_refl _
  · exact Nat.le_refl _

/-- **C06 (shortening).** A capped region stays inside the uncapped one, is at most `cap` long,
    and still contains the stack pointer whenever the uncapped one does. -/
theorem C06_cap (valid len sp c : Nat) (hc : 0 < c) (hin : valid ≤ sp ∧ sp < valid + len) :
    let r := capRegion valid len sp (some c)
    valid ≤ r.1 ∧ r.1 + r.2 ≤ valid + len ∧ r.2 ≤ max c 0 ∧ (len ≤ c → r = (valid, len)) ∧
    r.1 ≤ sp ∧ sp < r.1 + r.2 ∧ (len > c → r.2 ≤ c) := by
  unfold capRegion
  by_cases h : len > c
  · have hlt : sp - valid < len := by omega
    simp only [h, if_true, hc, decide_true, Bool.true_and, hlt]
    have hd := Nat.div_add_mod (sp - valid) c
    have hmod := Nat.mod_lt (sp - valid) hc
    -- sp − valid = c·q + r with r < c: the region starts c·q above `valid`
    rw [Nat.mul_comm ((sp - valid) / c) c]
    exact ⟨by omega, by omega, by omega, by omega, by omega, by omega, by omega⟩
  · simp only [h, if_false]
    exact ⟨Nat.le_refl _, Nat.le_refl _, by omega, fun _ => trivial, hin.1, hin.2, by omega⟩

/-- **C06 (who is shortened).** -/
theorem C06_only_extra_threads_shortened (limit : Option Nat) (numThreads currPos idx : Nat) (crash : Bool) (c : Nat)
    (h : maxStackLen limit (extraLimit limit numThreads currPos) idx crash = some c) :
    c = 2048 ∧ idx ≥ 20 ∧ crash = false ∧
    ∃ lim, limit = some lim ∧ currPos + numThreads * 8192 + 65536 > lim := by
  unfold maxStackLen extraLimit at h
  split at h
  · cases h
  rename_i hcr
  split at h
  · rename_i hc
    split at h
    · rename_i lim
      split at h
      · rename_i he
        cases h
        exact ⟨rfl, of_decide_eq_true (Bool.and_eq_true_iff.mp hc).2, Bool.eq_false_iff.mpr hcr, lim, rfl, he⟩
      · cases h
    · cases h
  · cases h

/-- without a limit, or for the crash-context thread, or for the first 20 threads: never shortened -/
theorem C06_not_shortened (limit extra : Option Nat) (idx : Nat) (crash : Bool)
    (h : limit = none ∨ crash = true ∨ idx < 20) : maxStackLen limit extra idx crash = none := by
  unfold maxStackLen
  rcases h with h | h | h
  · subst h; cases crash <;> simp
  · subst h; simp
  · cases crash
    · have : ¬ idx ≥ LIMIT_BASE_THREAD_COUNT := by simp [LIMIT_BASE_THREAD_COUNT]; omega
      simp [this]
    · simp

/-- the cap before the repair: `min(stack_len, cap)` from the page start -/
def capRegionLegacy (valid len : Nat) (cap : Option Nat) : Nat × Nat :=
  match cap with
  | some c => (valid, min len c)
  | none => (valid, len)

/-- **Counterexample (pre-repair).** SP 3000 bytes into its page, 16 KiB of stack above, cap
    2 KiB: the captured region [page, page+2048) does not contain SP. -/
theorem C06_legacy_cap_counterexample :
    let r := capRegionLegacy 0x7000 0x4000 (some 2048)
    ¬ (r.1 ≤ 0x7000 + 3000 ∧ 0x7000 + 3000 < r.1 + r.2) := by decide

/-- Non-vacuity: an evaluated layout (guard page below a stack mapping; SP in the guard page). -/
example :
    let guard : Mapping := ⟨0x10000, 0x1000, 0x10000, 0x11000, 0, 16, none⟩
    let stk : Mapping := ⟨0x11000, 0x8000, 0x11000, 0x19000, 0, 3 + 16, none⟩
    getStackInfo [guard, stk] 4096 0x10ff8 = .ok (0x11000, 0x8000) ∧
    getStackInfo [guard, stk] 4096 0x12345 = .ok (0x12000, 0x7000) ∧
    capRegion 0x12000 0x7000 0x12c00 (some 2048) = (0x12800, 2048) := by decide

end Mdw
