/-
  C19 — A writer can be reused: successive dumps are independent  (MinidumpWriter::dump, repaired)

    C19_noninterference   one request's image does not depend on the transient state on entry
    C19_history           in every history of requests on one writer, each image equals what a
                          freshly configured writer produces in the same environment
    C19_code_resets       (regenerated source fact) `dump()` is not recognisably missing the reset
    C19_image_fresh       the image the writer's operations produce is the closed form of that request's content
    C19_legacy_counterexample / C19_image_legacy_counterexample   without the reset the second image lists the
                          first dump's regions
-/
import MdwModel.Model.Writer
import MdwModel.Generated.Source
import MdwModel.Theorems.Compose
namespace Mdw

variable {Image : Type}

theorem C19_noninterference (render : WCfg → List Desc → Option (Nat × Nat) → Option Mapping → Image)
    (cfg : WCfg) (env : WEnv) (s s' : WTransient) :
    (dumpOnce true render cfg env s).2 = (dumpOnce true render cfg env s').2 := by
  simp [dumpOnce]

theorem C19_history (render : WCfg → List Desc → Option (Nat × Nat) → Option Mapping → Image)
    (cfg : WCfg) (s : WTransient) (envs : List WEnv) :
    dumpMany true render cfg s envs =
      envs.map (fun env => (dumpOnce true render cfg env WTransient.fresh).2) := by
  induction envs generalizing s with
  | nil => rfl
  | cons env envs ih =>
    simp only [dumpMany, List.map_cons]
    rw [ih]
    congr 1

/-- **Counterexample (pre-repair).** Two requests against the same environment that contributes
    one memory region each time: the second image carries two descriptors, a fresh writer's one. -/
theorem C19_legacy_counterexample :
    let env : WEnv := ⟨fun _ => none, fun _ _ => [⟨0x1000, 16, 300⟩], fun _ => none⟩
    let cfg : WCfg := ⟨1, false, false, none, none, false, []⟩
    let render : WCfg → List Desc → Option (Nat × Nat) → Option Mapping → Nat := fun _ bl _ _ => bl.length
    dumpMany false render cfg WTransient.fresh [env, env] = [1, 2] ∧
    dumpMany true render cfg WTransient.fresh [env, env] = [1, 1] := by decide

/-- the regenerated source fact: `dump()` resets the three per-request fields on entry (the
    model's `reset = true`), or at least is not recognisably missing the reset -/
theorem C19_code_resets : Src.dumpResetsTransient ≠ some false := by decide

/-- **C19 (image).** With the reset on entry, the image the writer's operations produce for a request is the
    closed-form image of what was gathered for *that* request — whatever earlier requests recorded does not enter:
    the operational dump does not even take the state left behind as an input. -/
theorem C19_image_fresh (d : DumpIn) (hN : 18 ≤ d.numWriters) (hsz : (dumpBytes d).length < 2 ^ 32)
    (htid : ∀ p ∈ d.names, p.1 < 2 ^ 31) : opDump d = some (dumpBytes d) := Compose_dump d hN hsz htid

/-- a small request: one thread with a stack, no modules, nothing else -/
def c19Small : DumpIn :=
  ⟨18, 0, [⟨5, 0x1000, some (0x1000, [1, 2, 3, 4, 5, 6, 7, 8]), none, List.replicate 1232 0, 9⟩], 5, none, [], [], [],
   ⟨9, 6, 1, 4, 0x8201, [], []⟩, [], none, none, none, none, none, none, none, .failed [], none, [], .failed [], none⟩

/-- **Counterexample (pre-repair), at the level of the image.** Started with a block left behind by an earlier request,
    the same operations produce a different image for the same request: sixteen bytes longer (the size of one
    descriptor of the memory list). -/
theorem C19_image_legacy_counterexample :
    opDumpLegacy ⟨[⟨0x7000, 16, 300⟩], CTC.none⟩ c19Small ≠ opDump c19Small ∧
    (opDump c19Small).map List.length = some (32 + 216 + 4 + 48 + 8 + 1232 + 4 + 4 + 16 + 168 + 56 + 4 + 16 + 4) ∧
    (opDumpLegacy ⟨[⟨0x7000, 16, 300⟩], CTC.none⟩ c19Small).map List.length =
      some (32 + 216 + 4 + 48 + 8 + 1232 + 4 + 4 + 32 + 168 + 56 + 4 + 16 + 4) := by
  -- both runs are closed forms (`Compose_from`: the legacy one of the pipeline started with the stale block), so
  -- only the end positions of the two pipelines are evaluated
  have hpos : (dumpAcc c19Small).pos = 32 + 216 + 4 + 48 + 8 + 1232 + 4 + 4 + 16 + 168 + 56 + 4 + 16 + 4 := by decide +kernel
  have hpos' : (accFrom ⟨32 + 12 * c19Small.numWriters, [], [], [⟨0x7000, 16, 300⟩]⟩ c19Small 19).pos =
      32 + 216 + 4 + 48 + 8 + 1232 + 4 + 4 + 32 + 168 + 56 + 4 + 16 + 4 := by decide +kernel
  have hlen := (imgOf_length c19Small _ (accAfter_base c19Small 19)).trans hpos
  have hlen' := (imgOf_length c19Small _ (accFrom_ext _ c19Small (Nat.zero_le 19)).1.1).trans hpos'
  have hfresh : opDump c19Small = some (dumpBytes c19Small) :=
    Compose_dump c19Small (by decide) (by rw [show (dumpBytes c19Small).length = _ from hlen]; decide) (by decide)
  have hleg := Compose_from c19Small [⟨0x7000, 16, 300⟩] (by decide) (by rw [hpos']; decide) (by decide)
  refine ⟨fun h => ?_, by rw [hfresh, Option.map_some]; exact congrArg some hlen,
    by rw [opDumpLegacy, hleg, Option.map_some, hlen']⟩
  rw [opDumpLegacy, hleg, hfresh, Option.some.injEq] at h
  rw [h] at hlen'
  exact absurd (hlen'.symm.trans hlen) (by decide)

end Mdw
