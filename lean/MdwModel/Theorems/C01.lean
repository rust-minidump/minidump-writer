/-
  C01 — A successful dump is a structurally sound minidump

  The image is produced exclusively through the builder of src/mem_writer.rs.  C16 shows that
  every operation of a valid history is an append or a patch confined to one handle.  Here:

    C01_partition       every run of operations keeps the extents of the handles (= the locations the
                        operations returned) a tiling of the image: consecutive, starting at 0, ending at
                        the image length
    C01_run_from_empty  from the empty builder every valid history runs and ends in such a tiling
    C01_disjoint_inside in a tiling any two distinct extents are disjoint and every extent lies wholly
                        inside
    C01_location_is_object   every location an appending operation returns is the extent of the
                        handle it created
  These four are about histories of builder operations (`Run`, `HistOk`: array indices in range, slots filled with
  their own type, image below 4 GiB); no theorem presents a writer as such a history.  What the writers leave in
  the image is stated on the closed-form image instead (Theorems/Image.lean, Compose.lean) and restated here:

    C01_image_header / _directory / _streams_disjoint / _thread_refs / _aliases / _module_refs / _os_version /
    _handle_refs / _link_map_refs     what a reader finds in `dumpBytes d`, for every content record `d`
    C01_refine_mem_info / _raw / _sysinfo, C01_compose_dump     the builder operations of the writers, and of
                        `generate_dump` as a whole, produce that image
  The plan obligations over the regenerated source (room in the directory for every published entry, stream types
  pairwise distinct) are in Theorems/Plan.lean.  The decidable predicate `wfImage` (Model/Decode.lean) is
  evaluated by the driver on every real image.
-/
import MdwModel.Theorems.C16
import MdwModel.Theorems.Plan
import MdwModel.Model.Decode
import MdwModel.Theorems.Image
import MdwModel.Theorems.Refine
import MdwModel.Theorems.Compose
namespace Mdw

def Tiles : List (Nat × Nat) → Nat → Nat → Prop
  | [], pos, fin => pos = fin
  | (s, n) :: rest, pos, fin => s = pos ∧ Tiles rest (pos + n) fin

section
variable {es : List (Nat × Nat)} {pos fin : Nat}

theorem Tiles.cons_iff {e : Nat × Nat} :
    Tiles (e :: es) pos fin ↔ e.1 = pos ∧ Tiles es (pos + e.2) fin := by
  obtain ⟨s, n⟩ := e; exact Iff.rfl

theorem Tiles.le (h : Tiles es pos fin) : pos ≤ fin := by
  induction es generalizing pos with
  | nil => exact Nat.le_of_eq h
  | cons e r ih => have := ih (Tiles.cons_iff.mp h).2; omega

theorem Tiles.mem_bounds (h : Tiles es pos fin) : ∀ e ∈ es, pos ≤ e.1 ∧ e.1 + e.2 ≤ fin := by
  induction es generalizing pos with
  | nil => intro e he; cases he
  | cons a r ih =>
    obtain ⟨ha, hr⟩ := Tiles.cons_iff.mp h
    intro e he
    rcases List.mem_cons.mp he with rfl | he
    · have := hr.le; exact ⟨by omega, by omega⟩
    · have := ih hr e he; exact ⟨by omega, this.2⟩

theorem Tiles.pairwise (h : Tiles es pos fin) : es.Pairwise (fun a b => a.1 + a.2 ≤ b.1) := by
  induction es generalizing pos with
  | nil => exact .nil
  | cons a r ih =>
    obtain ⟨ha, hr⟩ := Tiles.cons_iff.mp h
    refine .cons (fun b hb => ?_) (ih hr)
    have := (hr.mem_bounds b hb).1; omega

end

theorem Tiles_append (es : List (Nat × Nat)) (pos mid : Nat) (n : Nat) (h : Tiles es pos mid) :
    Tiles (es ++ [(mid, n)]) pos (mid + n) := by
  induction es generalizing pos with
  | nil => cases h; exact ⟨rfl, rfl⟩
  | cons e r ih => exact Tiles.cons_iff.mpr ⟨(Tiles.cons_iff.mp h).1, ih _ (Tiles.cons_iff.mp h).2⟩

def Part (st : St) : Prop := Tiles (st.hs.map Handle.ext) 0 st.buf.len

theorem Part.inv {st : St} (hp : Part st) : Inv st :=
  fun h hh => (Tiles.mem_bounds hp h.ext (List.mem_map_of_mem hh)).2

theorem Part_step (st st' : St) (r : Option Loc) (hp : Part st) (e : Effect st st' r) : Part st' := by
  cases e with
  | append new h hbuf hret hhs hext =>
    rw [Part, Buf.len, hbuf, List.length_append, hhs, List.map_append, List.map_cons, List.map_nil, hext]
    exact Tiles_append _ _ _ _ hp
  | patch k p v h hk hin hbuf hhs hret =>
    have hlen : st'.buf.len = st.buf.len := by
      rw [Buf.len, hbuf]; exact splice_length _ _ _ (Nat.le_trans hin.2 (hp.inv h (List.mem_of_getElem? hk)))
    rw [Part, hhs, hlen]
    exact hp

/-- **C01 (partition).** -/
theorem C01_partition (st st' : St) (ops : List Op) (hp : Part st) (hr : Run st ops st') : Part st' := by
  induction hr with
  | nil => exact hp
  | cons _ _ he _ ih => exact ih (Part_step _ _ _ hp he)

theorem Part_empty : Part ⟨Buf.empty, []⟩ := by simp [Part, Tiles, Buf.empty, Buf.len]

/-- **C01 (objects are disjoint and inside the image).** In a tiling, the extents at two
    different positions do not overlap and every extent ends inside. -/
theorem C01_disjoint_inside (es : List (Nat × Nat)) (pos fin : Nat) (h : Tiles es pos fin)
    (i j : Nat) (hij : i < j) (a b : Nat × Nat) (hi : es[i]? = some a) (hj : es[j]? = some b) :
    a.1 + a.2 ≤ b.1 ∧ b.1 + b.2 ≤ fin ∧ pos ≤ a.1 := by
  obtain ⟨hi', rfl⟩ := List.getElem?_eq_some_iff.mp hi
  obtain ⟨hj', rfl⟩ := List.getElem?_eq_some_iff.mp hj
  exact ⟨List.pairwise_iff_getElem.mp h.pairwise i j hi' hj' hij,
    (h.mem_bounds _ (List.getElem_mem hj')).2, (h.mem_bounds _ (List.getElem_mem hi')).1⟩

theorem Effect.of_some {st st' : St} {loc : Loc} (e : Effect st st' (some loc)) :
    ∃ h, st'.hs = st.hs ++ [h] ∧ h.ext = (loc.rva, loc.size) ∧ loc.rva = st.buf.len := by
  cases e with
  | append new h hbuf hret hhs hext => cases hret; exact ⟨h, hhs, hext, rfl⟩
  | patch k p v h hk hin hbuf hhs hret => cases hret

/-- **C01 (a returned location is an object).** -/
theorem C01_location_is_object (st st' : St) (op : Op) (loc : Loc) (hinv : Inv st) (hok : OpOk st op)
    (hs : step st op = some (st', some loc)) :
    ∃ h, st'.hs = st.hs ++ [h] ∧ h.ext = (loc.rva, loc.size) ∧ loc.rva = st.buf.len := by
  obtain ⟨st2, r, hs2, he, _⟩ := step_effect st op hinv hok
  cases hs.symm.trans hs2
  exact he.of_some

/-- whole-run statement: from the empty builder every valid history ends in a partition -/
theorem C01_run_from_empty (ops : List Op) (hok : HistOk ⟨Buf.empty, []⟩ ops) :
    ∃ st', Run ⟨Buf.empty, []⟩ ops st' ∧ Part st' := by
  obtain ⟨st', hr, _⟩ := C16_history ⟨Buf.empty, []⟩ ops (by intro h hh; cases hh) hok
  exact ⟨st', hr, C01_partition _ _ _ Part_empty hr⟩

/-- Non-vacuity: a concrete valid history from the empty builder (header slot, directory array,
    a stream, the header filled later, a directory entry) satisfies `HistOk`. -/
example : HistOk ⟨Buf.empty, []⟩
    [.alloc 4, .allocArray 2 3, .setValue 0 [1, 2, 3, 4], .allocWithVal [7], .setValueAt 1 1 [9, 9, 9]] := by
  simp [HistOk, OpOk, step, Slot.alloc, Arr.allocArray, Buf.reserve, Buf.empty, Buf.len, asU32,
    Slot.setValue, Buf.writeAt, zeros, Slot.allocWithVal, Buf.write]


/-- **C01 (image: header).** the header a reader decodes from the model's image of any content -/
theorem C01_image_header (d : DumpIn) (hn : d.numWriters < 2 ^ 32) (ht : d.timestamp < 2 ^ 32) :
    decodeHeader (Img.ofBytes (dumpBytes d)) = some ⟨MD_SIGNATURE, MD_VERSION, d.numWriters, 32, 0, d.timestamp, 0⟩ :=
  Image_header d hn ht

/-- **C01 (image: directory).** directory slot `k` holds the `k`-th published entry -/
theorem C01_image_directory (d : DumpIn) (k : Nat) (e : DirEnt) (hk : k < d.numWriters) (he : (dumpAcc d).dir[k]? = some e)
    (hf : e.ty < 2 ^ 32 ∧ e.size < 2 ^ 32 ∧ e.rva < 2 ^ 32) :
    let i := Img.ofBytes (dumpBytes d)
    i.u32 (32 + 12 * k) = some e.ty ∧ i.u32 (32 + 12 * k + 4) = some e.size ∧ i.u32 (32 + 12 * k + 8) = some e.rva :=
  Image_dir_read d k e hk he hf

/-- **C01 (image: streams).** any two published entries other than the all-zero one a writer without a stream
    leaves: both lie after the directory and wholly inside the image,
    and the earlier one ends before the later one begins -/
theorem C01_image_streams_disjoint (d : DumpIn) (i j : Nat) (a b : DirEnt) (hij : i < j)
    (ha : (dumpAcc d).dir[i]? = some a) (hb : (dumpAcc d).dir[j]? = some b) (hza : a ≠ zeroEnt) (hzb : b ≠ zeroEnt) :
    32 + 12 * d.numWriters ≤ a.rva ∧ a.rva + a.size ≤ b.rva ∧ b.rva + b.size ≤ (dumpBytes d).length :=
  Sorted.pair (Image_streams_ordered d) i j a b hij ha hb hza hzb

/-- **C01 (image: thread references).** the stack and context locations stored in thread `k`'s record designate
    objects inside the image with the stored lengths: the captured stack bytes and the context bytes -/
theorem C01_image_thread_refs (d : DumpIn) (k : Nat) (t : DThread) (hk : d.threads[k]? = some t)
    (hsz : (dumpBytes d).length < 2 ^ 32) (htid : t.tid < 2 ^ 32)
    (hstart : (match t.stack with | some (s, _) => s | none => t.sp) < 2 ^ 64) :
    let i := Img.ofBytes (dumpBytes d)
    let o := 32 + 12 * d.numWriters + 4 + 48 * k
    let p := threadPos d k
    i.u32 o = some t.tid ∧ i.u64 (o + 24) = some (match t.stack with | some (s, _) => s | none => t.sp) ∧
    i.u32 (o + 32) = some t.stackLen ∧ i.u32 (o + 36) = some p ∧
    i.u32 (o + 40) = some t.ctx.length ∧ i.u32 (o + 44) = some (t.ctxRva p) ∧
    i.bytes p t.stackLen = some t.stackBytes ∧ i.bytes (t.ctxRva p) t.ctx.length = some t.ctx :=
  Image_thread_read d k t hk hsz htid hstart

/-- **C01 (image: the two intentional aliases).** a thread's stack descriptor and its memory-list block name the same
    blob; the exception context and the context of the blamed thread (the last in the list with that id) are the
    same blob -/
theorem C01_image_aliases (d : DumpIn) (k : Nat) (t : DThread) (hk : d.threads[k]? = some t) :
    (∀ s b, t.stack = some (s, b) → (⟨s, b.length, threadPos d k⟩ : Desc) ∈ (acc3 d).blocks) ∧
    (t.tid = d.blamed → (∀ j t', k < j → d.threads[j]? = some t' → t'.tid ≠ d.blamed) →
      ∃ code flags addr, At (dumpBytes d) (acc4 d).pos
        (serExc d.blamed code flags addr t.ctx.length (t.ctxRva (threadPos d k)))) :=
  ⟨fun s b h => ((Image_thread_block d k t hk).1 s b h).1,
    fun ht hl => ⟨_, _, _, (Image_exception_listed d k t hk ht hl).2.1⟩⟩

/-- **C01 (image: module references).** the CodeView and name locations stored in module `k`'s record designate the
    identifier record and the name string -/
theorem C01_image_module_refs (d : DumpIn) (k : Nat) (m : DModule) (hk : d.modules[k]? = some m) :
    let cnt := (acc1 d).pos + (moduleBlobs d.modules).length
    (dumpAcc d).dir[1]? = some ⟨ST_MODULE_LIST, 4 + 108 * d.modules.length, cnt⟩ ∧
    At (dumpBytes d) cnt (le 4 d.modules.length) ∧
    At (dumpBytes d) (cnt + 4 + 108 * k) (moduleRec (modulePos d k) m) ∧
    At (dumpBytes d) (modulePos d k) m.cv ∧
    At (dumpBytes d) (modulePos d k + m.cv.length) (mdStr m.name) := Image_module d k m hk

/-- **C01 (image: OS version string).** -/
theorem C01_image_os_version (d : DumpIn) :
    At (dumpBytes d) (acc5 d).pos (serSysInfo d.sys ((acc5 d).pos + 56)) ∧
    At (dumpBytes d) ((acc5 d).pos + 56) (mdStr d.sys.os) := Image_sysinfo d

/-- **C01 (image: handle names).** -/
theorem C01_image_handle_refs (d : DumpIn) (hs : List DHandle) (hok : d.handles = .ok hs) (k : Nat) (h : DHandle)
    (hk : hs[k]? = some h) :
    let pos := (acc17 d).pos
    let q := pos + sumLen (fun x : DHandle => (mdStr x.name).length) (hs.take k)
    let hdr := pos + (handleNames hs).length
    At (dumpBytes d) hdr (le 4 16 ++ le 4 32 ++ le 4 hs.length ++ le 4 0) ∧
    At (dumpBytes d) (hdr + 16 + 32 * k) (le 8 h.fd ++ le 4 0 ++ le 4 q ++ le 4 h.attrs ++ le 4 0 ++ le 4 0 ++ le 4 0) ∧
    At (dumpBytes d) q (mdStr h.name) := Image_handle d hs hok k h hk

/-- **C01 (image: link-map names).** -/
theorem C01_image_link_map_refs (d : DumpIn) (x : DDso) (hok : d.dso = .ok x) (hne : x.maps ≠ []) (k : Nat) (m : DLinkMap)
    (hk : x.maps[k]? = some m) :
    let pos := (acc14 d).pos
    let q := pos + 20 * x.maps.length + sumLen (fun y : DLinkMap => (mdStr y.name).length) (x.maps.take k)
    At (dumpBytes d) (pos + 20 * k) (le 8 m.addr ++ le 4 q ++ le 8 m.ld) ∧
    At (dumpBytes d) q (mdStr m.name) ∧
    At (dumpBytes d) (pos + (dsoPrefix pos x).length) (serDsoDebug pos x ++ x.dyn) := Image_link_map d x hok hne k m hk

/-- A small content record (two threads, one with a stack, a module with an identifier, an application region, a
    name): eighteen directory entries, and the image is header + directory + what the stages appended. -/
example :
    let d : DumpIn := ⟨18, 7, [⟨5, 0x1000, some (0x1000, [1, 2, 3]), none, List.replicate 1232 0, 9⟩, ⟨6, 0x2000, none, none, List.replicate 1232 0, 0⟩],
      5, none, [], [⟨0x400000, 0x1000, [1, 2], [97], none⟩], [(0x5000, [9, 9])],
      ⟨9, 6, 1, 4, 0x8201, [], [76]⟩, [], none, none, none, none, none, none, none, .failed [], none, [(5, [97])], .failed [], some [91, 93]⟩
    (dumpAcc d).dir.length = 18 ∧ (dumpBytes d).length = 32 + 216 + (dumpAcc d).bytes.length := by
  intro d
  exact ⟨accFrom_dir_length (acc0 d) d, imgOf_length d (dumpAcc d) (accAfter_base d 19)⟩


/-- **C01 (writers refine the image model).** memory-info list, raw files / soft errors and system info: the builder
    operations the writers perform produce exactly the corresponding stage of the image model -/
theorem C01_refine_mem_info (b : Buf) (l : List MemInfoRec) (hb : b.len + 16 + 48 * l.length < 2 ^ 32) :
    opMemInfo b l = some (⟨b.inner ++ memInfoBody l⟩, ⟨ST_MEMORY_INFO_LIST, 16 + 48 * l.length, b.len⟩) := Refine_mem_info b l hb

theorem C01_refine_raw (ty : Nat) (b : Buf) (content : Bytes) (hb : b.len + content.length < 2 ^ 32) :
    opRaw ty b content = (⟨b.inner ++ content⟩, ⟨ty, content.length, b.len⟩) := Refine_raw ty b content hb

theorem C01_refine_sysinfo (b : Buf) (sys : DSysInfo) (hb : b.len + 56 + 4 + 2 * sys.os.length < 2 ^ 32) :
    opSysInfo b sys = some (⟨b.inner ++ (serSysInfo sys (b.len + 56) ++ mdStr sys.os)⟩, ⟨ST_SYSTEM_INFO, 56, b.len⟩) :=
  Refine_sysinfo b sys hb


/-- **C01 (the operational model produces the image).** `generate_dump` as builder operations — header and directory
    reserved, header filled, the eighteen writers in the order of the code, each directory entry set into the next
    slot of the directory array — produces exactly the closed-form image, for every content record (image below
    4 GiB, at least eighteen directory slots, thread ids in range). Every `C01_image_*` statement is therefore a
    statement about what those operations leave in the buffer. -/
theorem C01_compose_dump (d : DumpIn) (hN : 18 ≤ d.numWriters) (hsz : (dumpBytes d).length < 2 ^ 32)
    (htid : ∀ p ∈ d.names, p.1 < 2 ^ 31) : opDump d = some (dumpBytes d) := Compose_dump d hN hsz htid

end Mdw
