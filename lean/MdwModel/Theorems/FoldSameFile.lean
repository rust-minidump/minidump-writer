/- The reserved-gap fold of the mapping aggregation (a part of a file, the linker's inaccessible page, another part)
   applies only when the line behind the gap carries the *same name* as the mapping in front of it: a different file
   mapped right behind such a page is not folded by this rule. The model's `rule3` ends in
   `name == pp.name`; that the code compares the names is a regenerated source fact (`Src.foldRequiresSameName`; false
   under the seed C08_r20, which only asks whether both are paths). -/
import MdwModel.Lemmas.Maps
import MdwModel.Generated.Source
namespace Mdw

theorem FoldSameFile_source_agrees : Src.foldRequiresSameName = none ∨ Src.foldRequiresSameName = some true := by decide

/-- a fold implies the same name (and that the three ranges are contiguous) -/
theorem FoldSameFile_same (pp prev : Mapping) (s : Nat) (name : Option Bytes) (h : rule3 pp prev s name = true) :
    name = pp.name ∧ pp.end_ = prev.start ∧ prev.end_ = s :=
  let ⟨_, hadj, _, hs, hnm⟩ := rule3_iff.1 h
  ⟨hnm, hadj, hs⟩

/-- no fold across different names, whatever else holds -/
theorem FoldSameFile_different (pp prev : Mapping) (s : Nat) (name : Option Bytes) (h : name ≠ pp.name) :
    rule3 pp prev s name = false :=
  Bool.eq_false_iff.2 fun h' => h (FoldSameFile_same pp prev s name h').1

end Mdw
