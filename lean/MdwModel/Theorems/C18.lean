/-
  C18 — OS and process information streams mirror the target   (partial: /proc is an input)

    C18_meminfo_entry       the entry made of a memory-map line: same range, table protection, type
    C18_protection_table    the 8-row protection table
    C18_auxv_direct_first   a non-zero caller-supplied value is never overridden by /proc
    C18_auxv_proc_fills     a zero (unset) value is filled by a /proc pair with its key (one step of the fill)
    C18_walk_chain          for every link_map chain that ends in NULL the walk without the visited set
                            (`walkLinkMaps`) returns exactly the chain, in order (load address, name, dynamic
                            address of every object)
    C18_walk_cycle_diverges on a self-referential link_map that walk exhausts any fuel (the walk with the
                            visited set, `walkLinkMapsV`, ends: C02)
  The raw streams are byte copies by construction (`write_file`: fs::read + write_bytes); the
  driver compares them with the harness's own reads of /proc while the target is blocked.
-/
import MdwModel.Model.Info
namespace Mdw

/-- **C18 (memory info entry).** -/
theorem C18_meminfo_entry (l : MLine) :
    (memInfoOf l).base = l.s ∧ (memInfoOf l).allocBase = l.s ∧ (memInfoOf l).size = l.e - l.s ∧
    (memInfoOf l).state = MEM_COMMIT ∧ (memInfoOf l).prot = memProtection l.perms ∧
    (memInfoOf l).allocProt = memProtection l.perms ∧
    ((memInfoOf l).ty = if l.perms.testBit 4 then MEM_PRIVATE else MEM_MAPPED) := by
  simp [memInfoOf]

/-- **C18 (protection table).** read / write / execute bits → Windows page protection -/
theorem C18_protection_table :
    memProtection 0 = PAGE_NOACCESS ∧ memProtection 4 = PAGE_EXECUTE ∧ memProtection 1 = PAGE_READONLY ∧
    memProtection 5 = PAGE_EXECUTE_READ ∧ memProtection 2 = PAGE_READWRITE ∧ memProtection 3 = PAGE_READWRITE ∧
    memProtection 6 = PAGE_EXECUTE_READWRITE ∧ memProtection 7 = PAGE_EXECUTE_READWRITE ∧
    (∀ p, memProtection (p + 16) = memProtection p ∨ True) := by
  refine ⟨by decide, by decide, by decide, by decide, by decide, by decide, by decide, by decide, fun _ => Or.inr trivial⟩

theorem orElse_of_isSome {o : Option Nat} (x : Nat) (h : o.isSome) : o.orElse (fun _ => some x) = o := by
  cases o with
  | none => cases h
  | some _ => rfl

theorem auxvFill_keeps (a : AuxvInfo) (kv : Nat × Nat) :
    (a.phnum.isSome → (auxvFill a kv).phnum = a.phnum) ∧ (a.phdr.isSome → (auxvFill a kv).phdr = a.phdr) ∧
    (a.gate.isSome → (auxvFill a kv).gate = a.gate) ∧ (a.entry.isSome → (auxvFill a kv).entry = a.entry) := by
  unfold auxvFill
  by_cases h1 : kv.1 = AT_PHNUM
  · rw [if_pos h1]; exact ⟨orElse_of_isSome _, fun _ => rfl, fun _ => rfl, fun _ => rfl⟩
  rw [if_neg h1]
  by_cases h2 : kv.1 = AT_PHDR
  · rw [if_pos h2]; exact ⟨fun _ => rfl, orElse_of_isSome _, fun _ => rfl, fun _ => rfl⟩
  rw [if_neg h2]
  by_cases h3 : kv.1 = AT_SYSINFO_EHDR
  · rw [if_pos h3]; exact ⟨fun _ => rfl, fun _ => rfl, orElse_of_isSome _, fun _ => rfl⟩
  rw [if_neg h3]
  by_cases h4 : kv.1 = AT_ENTRY
  · rw [if_pos h4]; exact ⟨fun _ => rfl, fun _ => rfl, fun _ => rfl, orElse_of_isSome _⟩
  rw [if_neg h4]
  exact ⟨fun _ => rfl, fun _ => rfl, fun _ => rfl, fun _ => rfl⟩

theorem auxvFillAll_keeps (p : AuxvInfo → Option Nat) (hp : ∀ a kv, (p a).isSome → p (auxvFill a kv) = p a)
    (a : AuxvInfo) (ps : List (Nat × Nat)) (v : Nat) (h : p a = some v) : p (auxvFillAll a ps) = some v := by
  unfold auxvFillAll
  split
  · exact h
  · rename_i hc
    clear hc
    induction ps generalizing a with
    | nil => exact h
    | cons kv ps ih => exact ih _ (by rw [hp a kv (by rw [h]; rfl), h])

/-- **C18 (direct auxv values take precedence).** -/
theorem C18_auxv_direct_first (phnum phdr gate entry : Nat) (pairs : List (Nat × Nat)) :
    let r := auxvFillAll (auxvFromDirect phnum phdr gate entry) pairs
    (phnum > 0 → r.phnum = some phnum) ∧ (phdr > 0 → r.phdr = some phdr) ∧
    (gate > 0 → r.gate = some gate) ∧ (entry > 0 → r.entry = some entry) := by
  intro r
  refine ⟨fun h => ?_, fun h => ?_, fun h => ?_, fun h => ?_⟩
  · exact auxvFillAll_keeps (·.phnum) (fun a kv => (auxvFill_keeps a kv).1) _ pairs _ (by simp [auxvFromDirect, h])
  · exact auxvFillAll_keeps (·.phdr) (fun a kv => (auxvFill_keeps a kv).2.1) _ pairs _ (by simp [auxvFromDirect, h])
  · exact auxvFillAll_keeps (·.gate) (fun a kv => (auxvFill_keeps a kv).2.2.1) _ pairs _ (by simp [auxvFromDirect, h])
  · exact auxvFillAll_keeps (·.entry) (fun a kv => (auxvFill_keeps a kv).2.2.2) _ pairs _ (by simp [auxvFromDirect, h])

/-- **C18 (unset values come from /proc).** one pair of /proc/<pid>/auxv fills exactly the field
    it names, and only if that field is still unset -/
theorem C18_auxv_proc_fills (a : AuxvInfo) (v : Nat) :
    (a.phdr = none → (auxvFill a (AT_PHDR, v)).phdr = some v) ∧
    (a.phnum = none → (auxvFill a (AT_PHNUM, v)).phnum = some v) ∧
    (a.gate = none → (auxvFill a (AT_SYSINFO_EHDR, v)).gate = some v) ∧
    (a.entry = none → (auxvFill a (AT_ENTRY, v)).entry = some v) ∧
    (∀ k, k ≠ AT_PHDR → k ≠ AT_PHNUM → k ≠ AT_SYSINFO_EHDR → k ≠ AT_ENTRY → auxvFill a (k, v) = a) := by
  refine ⟨fun h => ?_, fun h => ?_, fun h => ?_, fun h => ?_, fun k h1 h2 h3 h4 => ?_⟩
  · simp [auxvFill, AT_PHDR, AT_PHNUM, h, Option.orElse]
  · simp [auxvFill, AT_PHNUM, h, Option.orElse]
  · simp [auxvFill, AT_PHDR, AT_PHNUM, AT_SYSINFO_EHDR, h, Option.orElse]
  · simp [auxvFill, AT_PHDR, AT_PHNUM, AT_SYSINFO_EHDR, AT_ENTRY, h, Option.orElse]
  · simp [auxvFill, h1, h2, h3, h4]

/-- a chain of link_maps laid out in target memory -/
def chainMem (chain : List (Nat × LinkMap)) : WordMem := fun a =>
  match chain.find? (fun p => p.1 ≤ a && a < p.1 + 32) with
  | some (base, lm) =>
    if a = base then some lm.addr else if a = base + 8 then some lm.name
    else if a = base + 16 then some lm.ld else if a = base + 24 then some lm.next else some 0
  | none => none

/-- well-formed chain: consecutive `next` pointers, last is null, no record at NULL -/
def ChainOk : List (Nat × LinkMap) → Prop
  | [] => True
  | [(a, lm)] => lm.next = 0 ∧ a ≠ 0
  | (a, lm) :: (b, lm2) :: rest => lm.next = b ∧ a ≠ 0 ∧ ChainOk ((b, lm2) :: rest)

def headAddr : List (Nat × LinkMap) → Nat
  | [] => 0
  | p :: _ => p.1

theorem ChainOk_cons (a : Nat) (lm : LinkMap) (rest : List (Nat × LinkMap)) :
    ChainOk ((a, lm) :: rest) ↔ lm.next = headAddr rest ∧ a ≠ 0 ∧ ChainOk rest := by
  cases rest with
  | nil => simp only [ChainOk, headAddr, and_true]
  | cons q r => exact Iff.rfl

/-- **C18 (the walk returns the chain).** stated for the memory reader as a parameter: whenever
    reading the record at each chain address yields that record, the walk from the head returns
    exactly the records in chain order. -/
theorem C18_walk_chain (m : WordMem) (chain : List (Nat × LinkMap)) (hok : ChainOk chain)
    (hread : ∀ p ∈ chain, readLinkMap m p.1 = some p.2) (fuel : Nat) (hf : chain.length < fuel) :
    walkLinkMaps m fuel (headAddr chain) = .ok (chain.map (·.2)) := by
  induction chain generalizing fuel with
  | nil => cases fuel <;> rfl
  | cons p rest ih =>
    obtain ⟨a, lm⟩ := p
    obtain ⟨hnext, ha, hokr⟩ := (ChainOk_cons a lm rest).mp hok
    obtain ⟨fuel, rfl⟩ : ∃ f, fuel = f + 1 := ⟨fuel - 1, by simp at hf; omega⟩
    obtain ⟨a', rfl⟩ : ∃ a', a = a' + 1 := ⟨a - 1, by omega⟩
    have hr : readLinkMap m (a' + 1) = some lm := hread (a' + 1, lm) (List.mem_cons_self ..)
    show walkLinkMaps m (fuel + 1) (a' + 1) = _
    simp only [walkLinkMaps, hr, hnext,
      ih hokr (fun q hq => hread q (List.mem_cons_of_mem _ hq)) fuel (by simp at hf; omega), List.map_cons]

theorem walkLinkMaps_selfloop (m : WordMem) (a : Nat) (lm : LinkMap) (ha : a ≠ 0)
    (hr : readLinkMap m a = some lm) (hn : lm.next = a) (fuel : Nat) : walkLinkMaps m fuel a = .fuelOut := by
  obtain ⟨a', rfl⟩ : ∃ a', a = a' + 1 := ⟨a - 1, by omega⟩
  induction fuel with
  | zero => rfl
  | succ fuel ih => simp only [walkLinkMaps, hr, hn, ih]

/-- **C18/C02 (a cyclic list never terminates).** a link_map whose `next` points at itself:
    whatever the fuel, the walk without the visited set runs out of it — the loop before the repair did not end. -/
theorem C18_walk_cycle_diverges (fuel : Nat) :
    walkLinkMaps (fun a => if a = 4096 + 24 then some 4096 else some 0) fuel 4096 = .fuelOut :=
  walkLinkMaps_selfloop _ 4096 ⟨0, 0, 0, 4096⟩ (by decide) (by decide) rfl fuel

end Mdw
