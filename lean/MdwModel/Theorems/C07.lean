/-
  C07 — The memory list is faithful and complete

    C07_ip_window     the window recorded around the crash instruction pointer lies inside a mapping
                      containing it, contains the instruction pointer, reaches at most 128 bytes to either
                      side and is clipped exactly at the mapping's ends  (that it is the first such mapping:
                      `gatherWindow_mapped`, C07_e2e_window)
    C07_list_layout   the memory-list stream is the count followed by one 16-byte descriptor per
                      registered block, descriptor `k` for block `k`
    C07_blocks_complete   a thread's stack and window descriptors are both in `threadBlocks`
    C07_image_list / _thread_regions / _app_regions    in the image of any content: the stream in slot 2 is the
                      serialised block list; every captured stack, window and application region is a block
                      whose location is where its bytes are
    C07_refine_memory_list / _app_memory    the two writers' builder operations produce their stages
    C07_e2e_stack / _window    from the gathering to the image, for a reader that returns the target's bytes
  That the reader does return the target's bytes is C17; the driver compares every recorded region with the
  target's memory.
-/
import MdwModel.Model.Exception
import MdwModel.Theorems.Image
import MdwModel.Theorems.Refine
import MdwModel.Theorems.EndToEnd
namespace Mdw

theorem C07_ip_window (ms : List Mapping) (ip lo len : Nat) (h : ipWindow ms ip = some (lo, len)) :
    ∃ m ∈ ms, m.start ≤ ip ∧ ip < m.start + m.size ∧
      m.start ≤ lo ∧ lo + len ≤ m.start + m.size ∧ lo ≤ ip ∧ ip < lo + len ∧
      ip ≤ lo + 128 ∧ lo + len ≤ ip + 128 ∧ len ≤ 256 ∧
      (lo = m.start ∨ lo + 128 = ip) ∧ (lo + len = m.start + m.size ∨ lo + len = ip + 128) := by
  cases hf : ms.find? (fun m => !(decide (ip < m.start) || decide (ip ≥ m.start + m.size))) with
  | none => rw [ipWindow, hf] at h; cases h
  | some m =>
    obtain ⟨hw, h1, h2⟩ := ipWindow_of_find hf
    obtain ⟨rfl, rfl⟩ := Prod.mk.inj (Option.some.inj (hw.symm.trans h))
    refine ⟨m, List.mem_of_find?_eq_some hf, h1, h2, ?_⟩
    omega

theorem C07_list_layout (blocks : List Desc) (k : Nat) (d : Desc) (hk : blocks[k]? = some d)
    (hn : blocks.length < 2 ^ 32) (hd : d.start < 2 ^ 64 ∧ d.size < 2 ^ 32 ∧ d.rva < 2 ^ 32) :
    let s := memoryListStream blocks
    s.length = 4 + 16 * blocks.length ∧ fieldAt s 0 4 = blocks.length ∧
    fieldAt s (4 + 16 * k) 8 = d.start ∧ fieldAt s (4 + 16 * k + 8) 4 = d.size ∧
    fieldAt s (4 + 16 * k + 12) 4 = d.rva := by
  intro s
  have hrec : At s (4 + 16 * k) (le 8 d.start ++ le 4 d.size ++ le 4 d.rva) :=
    At.skip (le 4 blocks.length) 4 (le_length _ _) (At.flatMap_const serDesc 16 serDesc_length blocks k d hk)
  have h2 := hrec.sub_head.sub_tail
  have h3 := hrec.sub_tail
  rw [le_length] at h2
  rw [List.length_append, le_length, le_length] at h3
  exact ⟨memoryListStream_length blocks, (At.head _ _).field (by simpa using hn),
    hrec.sub_head.sub_head.field (by simpa using hd.1), h2.field (by simpa using hd.2.1), h3.field (by simpa using hd.2.2)⟩

/-- **C07 (completeness of registration).** what a thread registers contains its stack and its
    IP window whenever they were written -/
theorem C07_blocks_complete (stack window : Option Desc) :
    (∀ d, stack = some d → d ∈ threadBlocks stack window) ∧
    (∀ d, window = some d → d ∈ threadBlocks stack window) :=
  ⟨fun d h => by simp [threadBlocks, h], fun d h => by simp [threadBlocks, h]⟩

example : ipWindow [⟨0x1000, 0x1000, 0x1000, 0x2000, 0, 5, none⟩] 0x1010 = some (0x1000, 0x90) := by decide

/-- **C07 (image: the list).** in the model's image of any content the memory list published in directory slot 2 is
    the serialised list of registered blocks -/
theorem C07_image_list (d : DumpIn) :
    (dumpAcc d).dir[2]? = some ⟨ST_MEMORY_LIST, 4 + 16 * (acc3 d).blocks.length, (acc3 d).pos⟩ ∧
    At (dumpBytes d) (acc3 d).pos (memoryListStream (acc3 d).blocks) := Image_memory_list d

/-- **C07 (image: stacks and the instruction-pointer window).** every captured stack and every window is a block of
    that list, and the image holds the captured bytes at the block's location -/
theorem C07_image_thread_regions (d : DumpIn) (k : Nat) (t : DThread) (hk : d.threads[k]? = some t) :
    (∀ s b, t.stack = some (s, b) →
      (⟨s, b.length, threadPos d k⟩ : Desc) ∈ (acc3 d).blocks ∧ At (dumpBytes d) (threadPos d k) b) ∧
    (∀ s b, t.window = some (s, b) →
      (⟨s, b.length, threadPos d k + t.stackLen⟩ : Desc) ∈ (acc3 d).blocks ∧ At (dumpBytes d) (threadPos d k + t.stackLen) b) :=
  Image_thread_block d k t hk

/-- **C07 (image: application regions).** every application region that was read is a block with exactly the
    requested address and the length read, and the image holds its bytes at the block's location -/
theorem C07_image_app_regions (d : DumpIn) (j : Nat) (a : Nat) (b : Bytes) (hj : d.app[j]? = some (a, b)) :
    (⟨a, b.length, (acc2 d).pos + appOff d.app j⟩ : Desc) ∈ (acc3 d).blocks ∧
    At (dumpBytes d) ((acc2 d).pos + appOff d.app j) b := Image_app_block d j a b hj

/-- **C07 (the writers refine the image model).** the builder operations of `memory_list_stream::write` and
    `app_memory::write` produce exactly the memory-list stage / application-memory stage of the image model -/
theorem C07_refine_memory_list (b : Buf) (blocks : List Desc) (hb : b.len + 4 + 16 * blocks.length < 2 ^ 32) :
    opMemoryList b blocks = some (⟨b.inner ++ memoryListStream blocks⟩, ⟨ST_MEMORY_LIST, 4 + 16 * blocks.length, b.len⟩) :=
  Refine_memory_list b blocks hb

theorem C07_refine_app_memory (b : Buf) (app : List (Nat × Bytes)) (hb : b.len + (appBlobs app).length < 2 ^ 32) :
    opApp b app = (⟨b.inner ++ appBlobs app⟩, appBlocksAt b.len app) := Refine_app_memory b app hb

/-- **C07 (end to end, thread stacks).** From the target to the image: when the gathering step of the thread-list writer
    (`gatherStack`, the composed model of `fill_thread_stack`) records an unsanitized region for the `k`-th thread,
    whose stack pointer lies in an accessible mapping (the case of C06_mapped), the region contains the stack pointer,
    the image lists it in the memory list's blocks at the location the thread record names, and the image bytes at
    that location are the target's memory at the region's addresses. -/
theorem C07_e2e_stack (env : GEnv) (cfg : GCfg) (mem : Nat → UInt8) (idx n currPos : Nat) (isCrash : Bool) (sp ip : Nat)
    (m : Mapping) (d : DumpIn) (k : Nat) (t : DThread) (start : Nat) (bytes : Bytes)
    (hp : 0 < env.page) (hw : HullOk env.ms) (hr : ReadsExactly env mem)
    (hf : findMapping env.ms (sp - sp % env.page) = some m) (hs : mayBeStack (some m) = true) (hsp : sp < m.start + m.size)
    (hns : cfg.sanitize = false)
    (hg : gatherStack env cfg idx n currPos isCrash sp ip = .ok (some (start, bytes)))
    (hk : d.threads[k]? = some t) (hst : t.stack = some (start, bytes))
    (hsz : (dumpBytes d).length < 2 ^ 32) (htid : t.tid < 2 ^ 32) (hstart : start < 2 ^ 64) :
    let i := Img.ofBytes (dumpBytes d)
    start ≤ sp ∧ sp < start + bytes.length ∧
    (⟨start, bytes.length, threadPos d k⟩ : Desc) ∈ (acc3 d).blocks ∧
    i.bytes (threadPos d k) bytes.length = some ((List.range bytes.length).map (fun j => mem (start + j))) := by
  intro i
  -- unsanitized: the record is the copy, the copy the target's memory of the recorded range
  obtain ⟨raw, hraw, _, h1, h2, _, _, hb, _⟩ := gatherStack_mapped env cfg mem idx n currPos isCrash sp ip m start bytes
    hp hw (hr.within _ _) hf hs hsp hg
  have hb := hb hns
  subst hb
  obtain ⟨_, _, _, hb, hmem⟩ := E2E_stack_in_image d k t start bytes hk hst hsz htid hstart
  exact ⟨h1, h2, hmem, hraw ▸ hb⟩

/-- **C07 (end to end, the window around the crash instruction pointer).** `E2E_window_in_image` under this property's
    name: gathered thread list + crash context whose instruction pointer lies in a mapping ⇒ the memory list's blocks
    hold a region of up to 128 bytes on either side of it, clipped to the mapping, with the target's bytes, located
    right after the blamed thread's stack. -/
theorem C07_e2e_window (env : GEnv) (cfg : GCfg) (mem : Nat → UInt8) (c : CrashIn) (blamed : Nat) (ts : List TInfo)
    (d : DumpIn) (k : Nat) (t : TInfo) (hr : ReadsExactly env mem)
    (hg : gatherThreads env cfg (some c) blamed d.numWriters ts = .ok d.threads)
    (hk : ts[k]? = some t) (hb : t.tid = blamed)
    (m : Mapping) (hm : env.ms.find? (fun m => !(decide (c.ip < m.start) || decide (c.ip ≥ m.start + m.size))) = some m) :
    ∃ dt lo b, d.threads[k]? = some dt ∧ dt.window = some (lo, b) ∧
      lo = max m.start (c.ip - 128) ∧ lo + b.length = min (m.start + m.size) (c.ip + 128) ∧
      b = (List.range b.length).map (fun j => mem (lo + j)) ∧
      (⟨lo, b.length, threadPos d k + dt.stackLen⟩ : Desc) ∈ (acc3 d).blocks ∧
      At (dumpBytes d) (threadPos d k + dt.stackLen) b :=
  E2E_window_in_image env cfg mem c blamed ts d k t hr hg hk hb m hm

end Mdw
