/-
  Operational models of the simpler stream writers — sequences of builder operations of src/mem_writer.rs, as the
  Rust code performs them — and the proof that each produces exactly the stage of the closed-form image model
  (Model/Dump.lean): the bytes appended, and the directory entry (type, size, rva) it returns.

    Refine_memory_list      memory_list_stream::write      = stMemoryList
    Refine_mem_info         memory_info_list_stream::write = stMemInfo
    Refine_raw              MinidumpWriter::write_file     = stRaw (some ·)
    Refine_soft_errors      write_soft_errors              = stRaw (some ·)
    Refine_app_memory       app_memory::write              = stApp
    Refine_exception        exception_stream::write        = stException   (on the accumulator's buffer: C05_refine_exception)
    Refine_sysinfo          systeminfo_stream::write       = stSysInfo
  (thread names: C15_image_refines in Theorems/C15.lean.)  Each holds for every buffer state and every content, under
  the explicit guard that the image stays below 4 GiB (positions are stored as u32).
-/
import MdwModel.Theorems.Stages
import MdwModel.Theorems.C16
namespace Mdw

/-- an accumulator as the buffer the writers see: header, directory and what has been appended -/
def Acc.bufOf (pre : Bytes) (a : Acc) : Buf := ⟨pre ++ a.bytes⟩

theorem mdStr_length (us : List Nat) : (mdStr us).length = 4 + 2 * us.length := by
  simp [mdStr, units16LE_length]; omega

/-- `memory_list_stream::write`: `alloc_with_val(count)`, `alloc_from_array(blocks)`, size summed -/
def opMemoryList (b : Buf) (blocks : List Desc) : Option (Buf × DirEnt) :=
  match Slot.allocWithVal b (le 4 blocks.length) with
  | none => none
  | some (b1, hdr) =>
    match Arr.allocFromArray b1 (blocks.map serDesc) 16 with
    | none => none
    | some (b2, arr) => some (b2, ⟨ST_MEMORY_LIST, hdr.location.size + arr.location.size, hdr.location.rva⟩)

theorem Refine_memory_list (b : Buf) (blocks : List Desc) (hb : b.len + 4 + 16 * blocks.length < 2 ^ 32) :
    opMemoryList b blocks = some (⟨b.inner ++ memoryListStream blocks⟩, ⟨ST_MEMORY_LIST, 4 + 16 * blocks.length, b.len⟩) := by
  have hv : ∀ v ∈ blocks.map serDesc, v.length = 16 := List.forall_mem_map.mpr fun d _ => serDesc_length d
  have h1 : b.len + (le 4 blocks.length).length < 2 ^ 32 := by rw [le_length]; omega
  have h2 : (⟨b.inner ++ le 4 blocks.length⟩ : Buf).len + (blocks.map serDesc).length * 16 < 2 ^ 32 := by
    rw [Buf.len_app, le_length, List.length_map]; omega
  simp only [opMemoryList, Slot.allocWithVal_eq b _ h1, Arr.allocFromArray_eq _ _ 16 hv h2,
    Slot.location_of_fit h1, Arr.location_of_fit h2]
  simp only [memoryListStream, List.flatMap_def, List.append_assoc, le_length, List.length_map, Nat.mul_comm]

def opMemInfo (b : Buf) (l : List MemInfoRec) : Option (Buf × DirEnt) :=
  match Slot.allocWithVal b (le 4 16 ++ le 4 48 ++ le 8 l.length) with
  | none => none
  | some (b1, hdr) =>
    match Arr.allocFromArray b1 (l.map serMemInfo) 48 with
    | none => none
    | some (b2, arr) => some (b2, ⟨ST_MEMORY_INFO_LIST, hdr.location.size + arr.location.size, hdr.location.rva⟩)

theorem Refine_mem_info (b : Buf) (l : List MemInfoRec) (hb : b.len + 16 + 48 * l.length < 2 ^ 32) :
    opMemInfo b l = some (⟨b.inner ++ memInfoBody l⟩, ⟨ST_MEMORY_INFO_LIST, 16 + 48 * l.length, b.len⟩) := by
  have hv : ∀ v ∈ l.map serMemInfo, v.length = 48 := List.forall_mem_map.mpr fun m _ => serMemInfo_length m
  have hl : (le 4 16 ++ le 4 48 ++ le 8 l.length).length = 16 := by simp only [List.length_append, le_length]
  have h1 : b.len + (le 4 16 ++ le 4 48 ++ le 8 l.length).length < 2 ^ 32 := by rw [hl]; omega
  have h2 : (⟨b.inner ++ (le 4 16 ++ le 4 48 ++ le 8 l.length)⟩ : Buf).len + (l.map serMemInfo).length * 48 < 2 ^ 32 := by
    rw [Buf.len_app, hl, List.length_map]; omega
  simp only [opMemInfo, Slot.allocWithVal_eq b _ h1, Arr.allocFromArray_eq _ _ 48 hv h2,
    Slot.location_of_fit h1, Arr.location_of_fit h2]
  simp only [memInfoBody, List.flatMap_def, List.append_assoc, List.length_append, le_length, List.length_map,
    Nat.mul_comm]

/-- `write_file` after a successful read / `write_soft_errors`: `write_bytes(content)` -/
def opRaw (ty : Nat) (b : Buf) (content : Bytes) : Buf × DirEnt :=
  let (b1, arr) := Arr.writeBytes b content
  (b1, ⟨ty, arr.location.size, arr.location.rva⟩)

theorem Refine_raw (ty : Nat) (b : Buf) (content : Bytes) (hb : b.len + content.length < 2 ^ 32) :
    opRaw ty b content = (⟨b.inner ++ content⟩, ⟨ty, content.length, b.len⟩) := by
  simp only [opRaw, Arr.writeBytes_eq b content hb, Arr.location_bytes hb]

theorem Refine_soft_errors (b : Buf) (json : Bytes) (hb : b.len + json.length < 2 ^ 32) :
    opRaw ST_MOZ_SOFT_ERRORS b json = (⟨b.inner ++ json⟩, ⟨ST_MOZ_SOFT_ERRORS, json.length, b.len⟩) :=
  Refine_raw _ b json hb

/-- `app_memory::write`: one `write_bytes` per region, each registering a block -/
def opApp : Buf → List (Nat × Bytes) → Buf × List Desc
  | b, [] => (b, [])
  | b, (a, bs) :: r =>
    let (b1, arr) := Arr.writeBytes b bs
    let (b2, rest) := opApp b1 r
    (b2, ⟨a, arr.location.size, arr.location.rva⟩ :: rest)

theorem Refine_app_memory (b : Buf) (app : List (Nat × Bytes)) (hb : b.len + (appBlobs app).length < 2 ^ 32) :
    opApp b app = (⟨b.inner ++ appBlobs app⟩, appBlocksAt b.len app) := by
  induction app generalizing b with
  | nil => simp [opApp, appBlobs, appBlocksAt]
  | cons x r ih =>
    obtain ⟨a, bs⟩ := x
    have hlen : (appBlobs ((a, bs) :: r)).length = bs.length + (appBlobs r).length := by simp [appBlobs]
    rw [hlen] at hb
    have h1 : b.len + bs.length < 2 ^ 32 := by omega
    simp only [opApp, Arr.writeBytes_eq b bs h1, Arr.location_bytes h1,
      ih ⟨b.inner ++ bs⟩ (by rw [Buf.len_app]; omega), Buf.len_app]
    simp [appBlobs, appBlocksAt, List.append_assoc]

/-- `exception_stream::write`: when a crash context is supplied and the blamed thread was not listed, the supplied
    context is written first; then the stream record -/
def opException (b : Buf) (crash : Option CrashInfo) (blamed : Nat) (ctc : CTC) (standalone : Bytes) : Option (Buf × DirEnt) :=
  let needs := crash.isSome && ctc == CTC.none
  let pre : Option (Buf × (Nat × Nat)) :=
    if needs then
      match Slot.allocWithVal b standalone with
      | some (b1, s) => some (b1, (s.location.size, s.location.rva))
      | none => none
    else some (b, (0, 0))
  match pre with
  | none => none
  | some (b1, loc) =>
    match Slot.allocWithVal b1 (exceptionStream crash blamed ctc loc) with
    | none => none
    | some (b2, s) => some (b2, ⟨ST_EXCEPTION, s.location.size, s.location.rva⟩)

theorem exceptionStream_loc_irrelevant (c : Option CrashInfo) (bl : Nat) (ctc : CTC) (l1 l2 : Nat × Nat)
    (h : (c.isSome && ctc == CTC.none) = false) : exceptionStream c bl ctc l1 = exceptionStream c bl ctc l2 := by
  unfold exceptionStream excFields
  cases ctc with
  | none => cases c with
    | none => rfl
    | some x => simp at h
  | crashContext l => rfl
  | crashContextPlusAddress l a => rfl

theorem Refine_exception (d : DumpIn) (b : Buf)
    (hb : b.len + (if needsStandalone d then d.standalone else []).length + 168 < 2 ^ 32) :
    opException b d.crash d.blamed (ctcOf d) d.standalone =
      some (⟨b.inner ++ ((if needsStandalone d then d.standalone else []) ++
          exceptionStream d.crash d.blamed (ctcOf d) (d.standalone.length, b.len))⟩,
        ⟨ST_EXCEPTION, 168, b.len + (if needsStandalone d then d.standalone else []).length⟩) := by
  unfold opException
  by_cases hn : needsStandalone d = true
  · have hn' : (d.crash.isSome && ctcOf d == CTC.none) = true := hn
    simp only [hn, if_true] at hb ⊢
    have h1 : b.len + d.standalone.length < 2 ^ 32 := by omega
    have e2 := Slot.allocWithVal_eq ⟨b.inner ++ d.standalone⟩
      (exceptionStream d.crash d.blamed (ctcOf d) (d.standalone.length, b.len))
      (by rw [Buf.len_app, exceptionStream_length]; exact hb)
    rw [Buf.len_app, exceptionStream_length] at e2
    simp only [hn', if_true, Slot.allocWithVal_eq b _ h1, Slot.location_of_fit h1, e2, Slot.location_of_fit hb,
      List.append_assoc]
  · have hn0 : needsStandalone d = false := Bool.eq_false_iff.mpr hn
    have hn' : (d.crash.isSome && ctcOf d == CTC.none) = false := hn0
    simp only [hn0, Bool.false_eq_true, if_false, List.length_nil, Nat.add_zero, List.nil_append] at hb ⊢
    have e2 := Slot.allocWithVal_eq b (exceptionStream d.crash d.blamed (ctcOf d) (0, 0))
      (by rw [exceptionStream_length]; exact hb)
    rw [exceptionStream_length] at e2
    simp only [hn', Bool.false_eq_true, if_false, e2, Slot.location_of_fit hb]
    rw [exceptionStream_loc_irrelevant _ _ _ (0, 0) (d.standalone.length, b.len) hn']

/-- `systeminfo_stream::write`: reserve the record, write the OS version string, then fill the record (which
    carries the string's offset) -/
def opSysInfo (b : Buf) (sys : DSysInfo) : Option (Buf × DirEnt) :=
  let (b1, slot) := Slot.alloc b 56
  match writeString b1 sys.os with
  | .ok (b2, loc) =>
    match slot.setValue b2 (serSysInfo sys loc.rva) with
    | some b3 => some (b3, ⟨ST_SYSTEM_INFO, slot.location.size, slot.location.rva⟩)
    | none => none
  | _ => none

theorem Refine_sysinfo (b : Buf) (sys : DSysInfo) (hb : b.len + 56 + 4 + 2 * sys.os.length < 2 ^ 32) :
    opSysInfo b sys = some (⟨b.inner ++ (serSysInfo sys (b.len + 56) ++ mdStr sys.os)⟩, ⟨ST_SYSTEM_INFO, 56, b.len⟩) := by
  have h1 : b.len + 56 < 2 ^ 32 := by omega
  have hlen1 : (⟨b.inner ++ zeros 56⟩ : Buf).len = b.len + 56 := by rw [Buf.len_app, zeros_length]
  have hset : Buf.writeAt ⟨b.inner ++ zeros 56 ++ (le 4 (2 * sys.os.length) ++ units16LE sys.os)⟩ b.len
      (serSysInfo sys (b.len + 56)) = _ :=
    Buf.writeAt_mid b.inner (zeros 56) _ _ (by rw [zeros_length, serSysInfo_length])
  rw [← List.append_assoc] at hset
  simp only [opSysInfo, Slot.alloc_eq b 56 h1, C16_writeString _ sys.os (by rw [hlen1]; omega), hlen1,
    Slot.setValue, hset, Slot.location_of_fit h1]
  simp only [mdStr, List.append_assoc]

end Mdw
