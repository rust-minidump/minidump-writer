/-
  C17 — All remote-memory read strategies return the target's bytes   (src/linux/mem_reader.rs)

  Over the model of a paged target memory (kernel semantics of the three primitives assumed, see
  Model/MemReader.lean):

    C17_vmem_readable     entirely readable range → exactly the target's bytes
    C17_vmem_prefix       otherwise: failure, or a non-empty prefix of the target's bytes made of
                          readable bytes only (the Vec's length is the number of bytes read)
    C17_file              /proc/<pid>/mem: exactly the bytes iff every byte is mapped, else failure
    C17_ptrace_sound      word-by-word: whatever is returned is exactly the target's bytes of the
                          whole range, all mapped — never fabricated, never partial
    C17_ptrace_complete   every range of ≥ 8 bytes (or a multiple of the word size) that is entirely
                          mapped is returned, whatever follows it (the repaired tail)
    C17_ptrace_complete_short   ranges shorter than a word: returned if the word starting at the
                          range or the word ending at it is mapped
    C17_legacy_counterexample   the unrepaired tail fails on 5 readable bytes at the end of a mapping
-/
import MdwModel.Model.MemReader
namespace Mdw

theorem all_range_add_iff (p : Nat → Bool) (a n : Nat) :
    (List.range n).all (fun i => p (a + i)) = true ↔ ∀ x, a ≤ x → x < a + n → p x = true := by
  simp only [List.all_eq_true, List.mem_range]
  constructor
  · intro h x h1 h2
    have := h (x - a) (by omega)
    rwa [Nat.add_sub_cancel' h1] at this
  · intro h i hi
    exact h (a + i) (by omega) (by omega)

namespace TMem
theorem allMapped_iff (m : TMem) (a n : Nat) :
    m.allMapped a n = true ↔ ∀ x, a ≤ x → x < a + n → m.mapped x = true := all_range_add_iff _ a n

theorem allReadable_iff (m : TMem) (a n : Nat) :
    m.allReadable a n = true ↔ ∀ x, a ≤ x → x < a + n → m.readable x = true := all_range_add_iff _ a n

theorem allMapped_sub (m : TMem) (a n : Nat) (h : m.allMapped a n = true) (b k : Nat) (h1 : a ≤ b) (h2 : b + k ≤ a + n) :
    m.allMapped b k = true := by
  rw [allMapped_iff] at *
  exact fun x hx1 hx2 => h x (by omega) (by omega)

theorem allMapped_append (m : TMem) (a n k : Nat) :
    m.allMapped a (n + k) = (m.allMapped a n && m.allMapped (a + n) k) := by
  simp only [allMapped, List.range_add, List.all_append, List.all_map, Function.comp_def, Nat.add_assoc]

theorem bytes_length (m : TMem) (a n : Nat) : (m.bytes a n).length = n := by simp [bytes]

theorem bytes_append (m : TMem) (a n k : Nat) : m.bytes a (n + k) = m.bytes a n ++ m.bytes (a + n) k := by
  simp only [bytes, List.range_add, List.map_append, List.map_map, Function.comp_def, Nat.add_assoc]

theorem bytes_succ (m : TMem) (a n : Nat) : m.bytes a (n + 1) = m.byte a :: m.bytes (a + 1) n := by
  rw [Nat.add_comm n 1, bytes_append]
  rfl

theorem bytes_take (m : TMem) (a n k : Nat) (h : k ≤ n) : (m.bytes a n).take k = m.bytes a k := by
  obtain ⟨d, rfl⟩ : ∃ d, n = k + d := ⟨n - k, by omega⟩
  rw [bytes_append, List.take_left' (bytes_length _ _ _)]

theorem bytes_drop (m : TMem) (a n k : Nat) (h : k ≤ n) : (m.bytes a n).drop k = m.bytes (a + k) (n - k) := by
  obtain ⟨d, rfl⟩ : ∃ d, n = k + d := ⟨n - k, by omega⟩
  rw [bytes_append, List.drop_left' (bytes_length _ _ _)]
  congr 1; omega
end TMem

theorem readablePrefix_spec (m : TMem) (a n : Nat) :
    readablePrefix m a n ≤ n ∧ m.allReadable a (readablePrefix m a n) = true ∧
    (readablePrefix m a n < n → m.readable (a + readablePrefix m a n) = false) := by
  induction n generalizing a with
  | zero => exact ⟨Nat.le_refl _, rfl, fun h => absurd h (Nat.lt_irrefl _)⟩
  | succ n ih =>
    simp only [readablePrefix]
    cases hr : m.readable a
    · exact ⟨Nat.zero_le _, rfl, fun _ => hr⟩
    · obtain ⟨h1, h2, h3⟩ := ih (a + 1)
      rw [TMem.allReadable_iff] at h2 ⊢
      simp only [if_true]
      refine ⟨by omega, fun x hx1 hx2 => ?_, fun h => ?_⟩
      · by_cases hx : x = a
        · rw [hx]; exact hr
        · exact h2 x (by omega) (by omega)
      · rw [← Nat.add_assoc]; exact h3 (by omega)

theorem readablePrefix_all (m : TMem) (a n : Nat) (h : m.allReadable a n = true) : readablePrefix m a n = n := by
  obtain ⟨h1, _, h3⟩ := readablePrefix_spec m a n
  rw [TMem.allReadable_iff] at h
  by_cases hlt : readablePrefix m a n < n
  · have := h (a + readablePrefix m a n) (Nat.le_add_right a _) (by omega)
    rw [h3 hlt] at this; cases this
  · omega

/-- **C17 (vectored read, readable range).** -/
theorem C17_vmem_readable (m : TMem) (src n : Nat) (hn : 0 < n) (h : m.allReadable src n = true) :
    vmemRead m src n = some (m.bytes src n) := by
  rw [vmemRead, readablePrefix_all m src n h]
  exact if_neg (Nat.ne_of_gt hn)

/-- **C17 (vectored read, any range).** -/
theorem C17_vmem_prefix (m : TMem) (src n : Nat) (bs : Bytes) (h : vmemRead m src n = some bs) :
    ∃ k, 0 < k ∧ k ≤ n ∧ bs = m.bytes src k ∧ bs = (m.bytes src n).take k ∧ m.allReadable src k = true := by
  unfold vmemRead at h
  obtain ⟨hle, hrd, _⟩ := readablePrefix_spec m src n
  by_cases hk : readablePrefix m src n = 0
  · simp [hk] at h
  · simp only [hk, if_false, Option.some.injEq] at h
    exact ⟨_, Nat.pos_of_ne_zero hk, hle, h.symm, by rw [← h, TMem.bytes_take _ _ _ _ hle], hrd⟩

/-- **C17 (/proc/<pid>/mem).** -/
theorem C17_file (m : TMem) (src n : Nat) :
    (m.allMapped src n = true → fileRead m src n = some (m.bytes src n)) ∧
    (m.allMapped src n = false → fileRead m src n = none) := by
  unfold fileRead
  constructor <;> intro h <;> simp [h]

theorem ptraceWords_eq (m : TMem) (src k : Nat) :
    ptraceWords m src k = if m.allMapped src (8 * k) then some (m.bytes src (8 * k)) else none := by
  induction k generalizing src with
  | zero => rfl
  | succ k ih =>
    rw [ptraceWords, ih, peek, Nat.mul_succ, Nat.add_comm (8 * k) 8, TMem.allMapped_append, TMem.bytes_append]
    cases m.allMapped src 8 <;> cases m.allMapped (src + 8) (8 * k) <;> rfl

/-- the two words through which `ptraceRead` may fetch the `r` bytes at `a` (`0 < r < 8`): the one that starts
    at `a`, else the one that ends at `a + r` -/
def tailMapped (m : TMem) (a r : Nat) : Bool :=
  m.allMapped a 8 || (decide (8 - r ≤ a) && m.allMapped (a - (8 - r)) 8)

theorem ptraceRead_eq (m : TMem) (src n : Nat) :
    ptraceRead m src n =
      if m.allMapped src (8 * (n / 8)) && (n % 8 == 0 || tailMapped m (src + 8 * (n / 8)) (n % 8))
      then some (m.bytes src n) else none := by
  have hr : n % 8 < 8 := Nat.mod_lt _ (by decide)
  have hb : m.bytes src n = m.bytes src (8 * (n / 8)) ++ m.bytes (src + 8 * (n / 8)) (n % 8) := by
    rw [← TMem.bytes_append, Nat.div_add_mod]
  rw [ptraceRead, ptraceWords_eq, hb]
  generalize n % 8 = r at hr ⊢
  generalize src + 8 * (n / 8) = a
  cases m.allMapped src (8 * (n / 8))
  · rfl
  by_cases h0 : r = 0
  · subst h0
    simp [TMem.bytes]
  simp only [if_true, Bool.true_and, h0, if_false, beq_false_of_ne h0, Bool.false_or, tailMapped, peek]
  cases m.allMapped a 8
  · by_cases hlt : a < 8 - r
    · simp only [Bool.false_eq_true, if_false, hlt, if_true, Bool.false_or, decide_eq_false (Nat.not_le.mpr hlt),
        Bool.false_and]
    · simp only [Bool.false_eq_true, if_false, hlt, Bool.false_or, decide_eq_true (Nat.not_lt.mp hlt), Bool.true_and]
      cases m.allMapped (a - (8 - r)) 8
      · rfl
      · simp only [if_true]
        rw [TMem.bytes_drop _ _ _ _ (Nat.sub_le 8 r), Nat.sub_add_cancel (Nat.not_lt.mp hlt),
          Nat.sub_sub_self (Nat.le_of_lt hr)]
  · simp only [if_true, Bool.true_or]
    rw [TMem.bytes_take _ _ _ _ (Nat.le_of_lt hr)]

theorem tailMapped_sub (m : TMem) (a r : Nat) (hr : r < 8) (h : tailMapped m a r = true) : m.allMapped a r = true := by
  simp only [tailMapped, Bool.or_eq_true, Bool.and_eq_true, decide_eq_true_eq] at h
  rcases h with h | ⟨hb, h⟩
  · exact TMem.allMapped_sub m _ 8 h _ _ (Nat.le_refl _) (by omega)
  · exact TMem.allMapped_sub m _ 8 h _ _ (by omega) (by omega)

/-- **C17 (ptrace, soundness).** -/
theorem C17_ptrace_sound (m : TMem) (src n : Nat) (bs : Bytes) (h : ptraceRead m src n = some bs) :
    bs = m.bytes src n ∧ m.allMapped src n = true := by
  rw [ptraceRead_eq] at h
  split at h
  · rename_i hc
    simp only [Bool.and_eq_true, Bool.or_eq_true, beq_iff_eq] at hc
    injection h with h
    refine ⟨h.symm, ?_⟩
    rw [← Nat.div_add_mod n 8, TMem.allMapped_append, hc.1, Bool.true_and]
    rcases hc.2 with h0 | ht
    · rw [h0]; rfl
    · exact tailMapped_sub m _ _ (Nat.mod_lt _ (by decide)) ht
  · cases h

/-- **C17 (ptrace, completeness for ranges of at least a word).** -/
theorem C17_ptrace_complete (m : TMem) (src n : Nat) (hn8 : 8 ≤ n ∨ n % 8 = 0)
    (h : m.allMapped src n = true) : ptraceRead m src n = some (m.bytes src n) := by
  have hn := Nat.div_add_mod n 8
  have hr : n % 8 < 8 := Nat.mod_lt _ (by decide)
  rw [ptraceRead_eq, if_pos]
  rw [Bool.and_eq_true, Bool.or_eq_true, beq_iff_eq]
  refine ⟨TMem.allMapped_sub m src n h src _ (Nat.le_refl _) (by omega), ?_⟩
  rcases hn8 with h8 | h0
  · -- the word ending at the end of the range lies inside the range
    refine Or.inr ?_
    simp only [tailMapped, Bool.or_eq_true, Bool.and_eq_true, decide_eq_true_eq]
    exact Or.inr ⟨by omega, TMem.allMapped_sub m src n h _ _ (by omega) (by omega)⟩
  · exact Or.inl h0

/-- **C17 (ptrace, ranges shorter than a word).** -/
theorem C17_ptrace_complete_short (m : TMem) (src n : Nat) (h0 : 0 < n) (h8 : n < 8)
    (hw : m.allMapped src 8 = true ∨ (8 - n ≤ src ∧ m.allMapped (src - (8 - n)) 8 = true)) :
    ptraceRead m src n = some (m.bytes src n) := by
  have hq : n / 8 = 0 := by omega
  have hr : n % 8 = n := by omega
  rw [ptraceRead_eq, if_pos]
  simp only [hq, hr, Nat.mul_zero, Nat.add_zero, tailMapped, Bool.and_eq_true, Bool.or_eq_true, decide_eq_true_eq]
  exact ⟨rfl, Or.inr hw⟩

/-- **Counterexample (pre-repair).** 5 readable bytes ending at the end of a page that is
    followed by an unmapped page: the legacy tail read fails, the repaired one returns the bytes. -/
theorem C17_legacy_counterexample :
    let m : TMem := ⟨16, fun p => if p == 1 then some true else none, fun a => UInt8.ofNat a⟩
    ptraceReadLegacy m 27 5 = none ∧ ptraceRead m 27 5 = some [27, 28, 29, 30, 31] ∧
    m.allReadable 27 5 = true := by decide

end Mdw
