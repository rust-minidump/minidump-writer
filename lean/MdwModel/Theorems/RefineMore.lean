/-
  Refinement of the handle-data, linker-debug and module-list writers (builder operations) to their stages of the image
  model.
-/
import MdwModel.Theorems.RefineLoop
namespace Mdw

/-- per open file: `write_string_to_location(link target)`, the descriptor keeps the string's offset -/
def opHandleStrings : Buf → List DHandle → Option (Buf × List Bytes)
  | b, [] => some (b, [])
  | b, h :: r =>
    match writeString b h.name with
    | .ok (b1, loc) =>
      match opHandleStrings b1 r with
      | some (b2, recs) => some (b2, handleRec loc.rva h :: recs)
      | none => none
    | _ => none

/-- `handle_data_stream::write`: the strings, then the header, then `alloc_from_iter(descriptors)` -/
def opHandles (b : Buf) (hs : List DHandle) : Option (Buf × DirEnt) :=
  match opHandleStrings b hs with
  | none => none
  | some (b1, recs) =>
    match Slot.allocWithVal b1 (le 4 16 ++ le 4 32 ++ le 4 hs.length ++ le 4 0) with
    | none => none
    | some (b2, hdr) =>
      match Arr.allocFromArray b2 recs 32 with
      | none => none
      | some (b3, arr) => some (b3, ⟨ST_HANDLE_DATA, hdr.location.size + arr.location.size, hdr.location.rva⟩)

theorem opHandleStrings_spec (b : Buf) (hs : List DHandle) (hb : b.len + (handleNames hs).length < 2 ^ 32) :
    ∃ recs, opHandleStrings b hs = some (⟨b.inner ++ handleNames hs⟩, recs) ∧
      recs.flatten = handleRecs b.len hs ∧ recs.length = hs.length ∧ ∀ v ∈ recs, v.length = 32 := by
  induction hs generalizing b with
  | nil => exact ⟨[], by simp [opHandleStrings, handleNames], by simp [handleRecs], rfl, by simp⟩
  | cons h r ih =>
    have hl : (handleNames (h :: r)).length = (mdStr h.name).length + (handleNames r).length := by simp [handleNames]
    rw [hl, mdStr_length] at hb
    have hws := C16_writeString b h.name (by omega)
    have hlen1 : (⟨b.inner ++ le 4 (2 * h.name.length) ++ units16LE h.name⟩ : Buf).len = b.len + (mdStr h.name).length := by
      simp [Buf.len, mdStr]
    obtain ⟨recs, h1, h2, h3, h4⟩ := ih ⟨b.inner ++ le 4 (2 * h.name.length) ++ units16LE h.name⟩
      (by rw [hlen1, mdStr_length]; omega)
    refine ⟨handleRec b.len h :: recs, ?_, ?_, by simp [h3], ?_⟩
    · simp only [opHandleStrings, hws, h1]
      simp [handleNames, mdStr, List.append_assoc]
    · simp only [List.flatten_cons, h2, hlen1, handleRecs, handleRec]
    · intro v hv
      rcases List.mem_cons.mp hv with rfl | hv
      · exact handleRec_length _ _
      · exact h4 v hv

theorem Refine_handles (b : Buf) (hs : List DHandle) (hb : b.len + (handleNames hs).length + 16 + 32 * hs.length < 2 ^ 32) :
    opHandles b hs = some (⟨b.inner ++ (handleNames hs ++ (le 4 16 ++ le 4 32 ++ le 4 hs.length ++ le 4 0 ++ handleRecs b.len hs))⟩,
      ⟨ST_HANDLE_DATA, 16 + 32 * hs.length, b.len + (handleNames hs).length⟩) := by
  obtain ⟨recs, h1, h2, h3, h4⟩ := opHandleStrings_spec b hs (by omega)
  unfold opHandles
  generalize hh : le 4 16 ++ le 4 32 ++ le 4 hs.length ++ le 4 0 = hdr
  have hl : hdr.length = 16 := by rw [← hh]; simp only [List.length_append, le_length]
  have f1 : (⟨b.inner ++ handleNames hs⟩ : Buf).len + hdr.length < 2 ^ 32 := by rw [Buf.len_app, hl]; omega
  have f2 : (⟨b.inner ++ handleNames hs ++ hdr⟩ : Buf).len + recs.length * 32 < 2 ^ 32 := by
    rw [Buf.len_app, Buf.len_app, hl, h3]; omega
  simp only [h1, Slot.allocWithVal_eq _ _ f1, Arr.allocFromArray_eq _ _ 32 h4 f2, Slot.location_of_fit f1,
    Arr.location_of_fit f2]
  simp only [h2, h3, hl, Buf.len_app, List.append_assoc, Nat.mul_comm hs.length 32]

/-- per loaded object: `write_string_to_location(name)`, then `set_value_at(entry, idx)` -/
def opLinkMapLoop (arr : Arr) : Buf → Nat → List DLinkMap → Option Buf
  | b, _, [] => some b
  | b, k, m :: r =>
    match writeString b m.name with
    | .ok (b1, loc) =>
      match arr.setValueAt b1 (linkMapRec loc.rva m) k with
      | some b2 => opLinkMapLoop arr b2 (k + 1) r
      | none => none
    | _ => none

theorem opLinkMapLoop_sim (arr : Arr) (b b' : Buf) (k : Nat) (ms : List DLinkMap)
    (hfill : fillLoop linkMapRec (fun m => mdStr m.name) arr b k ms = some b') (hlen : b'.len < 2 ^ 32) :
    opLinkMapLoop arr b k ms = some b' := by
  induction ms generalizing b k with
  | nil => exact hfill
  | cons m r ih =>
    obtain ⟨b2, hs, hfill, h1, h2⟩ := fillLoop_cons hfill
    rw [mdStr_length] at h1
    simp only [opLinkMapLoop]
    rw [C16_writeString b m.name (by omega), List.append_assoc]
    show (match arr.setValueAt ⟨b.inner ++ mdStr m.name⟩ (linkMapRec b.len m) k with
      | some b2 => opLinkMapLoop arr b2 (k + 1) r | none => none) = _
    rw [hs]
    exact ih b2 (k + 1) hfill

/-- `write_dso_debug_stream` once the target's linker data has been read: the link-map array and names (when
    there is at least one object), the MDRawDebug record, the dynamic section bytes -/
def opDso (b : Buf) (x : DDso) : Option (Buf × DirEnt) :=
  let pre : Option (Buf × Nat) :=
    if x.maps.isEmpty then some (b, U32_MAX) else
      let (b1, arr) := Arr.allocArray b x.maps.length 20
      match opLinkMapLoop arr b1 0 x.maps with
      | some b2 => some (b2, arr.location.rva)
      | none => none
  match pre with
  | none => none
  | some (b2, mapRva) =>
    match Slot.allocWithVal b2 (le 4 x.version ++ le 4 mapRva ++ le 4 x.maps.length ++ le 8 x.brk ++ le 8 x.ldbase ++ le 8 x.dynamic) with
    | none => none
    | some (b3, s) =>
      let (b4, _) := Arr.writeBytes b3 x.dyn
      some (b4, ⟨ST_LINUX_DSO_DEBUG, s.location.size + x.dyn.length, s.location.rva⟩)

theorem dsoPrefix_length (pos : Nat) (x : DDso) :
    (dsoPrefix pos x).length = if x.maps.isEmpty then 0 else 20 * x.maps.length + (linkMapNames x.maps).length := by
  unfold dsoPrefix
  by_cases h : x.maps.isEmpty
  · simp [h]
  · simp [h, linkMapRecs_length]

theorem Refine_dso (b : Buf) (x : DDso) (hb : b.len + (dsoPrefix b.len x).length + 36 + x.dyn.length < 2 ^ 32) :
    opDso b x = some (⟨b.inner ++ (dsoPrefix b.len x ++ (serDsoDebug b.len x ++ x.dyn))⟩,
      ⟨ST_LINUX_DSO_DEBUG, 36 + x.dyn.length, b.len + (dsoPrefix b.len x).length⟩) := by
  have hpl := dsoPrefix_length b.len x
  have hpre : (if x.maps.isEmpty then some (b, U32_MAX) else
      let (b1, arr) := Arr.allocArray b x.maps.length 20
      match opLinkMapLoop arr b1 0 x.maps with
      | some b2 => some (b2, arr.location.rva)
      | none => none) = some (⟨b.inner ++ dsoPrefix b.len x⟩, if x.maps.isEmpty then U32_MAX else b.len) := by
    by_cases hemp : x.maps.isEmpty
    · simp only [hemp, if_true, dsoPrefix, List.append_nil]
    · have hemp' : x.maps.isEmpty = false := by simpa using hemp
      simp only [hemp', Bool.false_eq_true, if_false] at hpl ⊢
      rw [hpl] at hb
      have hfill := fillLoop_fresh linkMapRec (fun m => mdStr m.name) 20 linkMapRec_length ⟨b.len, x.maps.length, 20⟩
        b.inner x.maps rfl rfl
      have hloop := opLinkMapLoop_sim _ _ _ 0 x.maps hfill
        (by simp only [Buf.len, List.length_append, recsGen_length linkMapRec _ 20 linkMapRec_length, linkMapNames] at hb ⊢
            omega)
      simp only [Arr.allocArray_eq _ _ _ (show b.len + x.maps.length * 20 < 2 ^ 32 by omega),
        Nat.mul_comm x.maps.length 20, hloop, Arr.location]
      simp [dsoPrefix, hemp', linkMapRecs_eq, linkMapNames, Buf.len, List.append_assoc]
  have hrl := serDsoDebug_length b.len x
  have f3 : (⟨b.inner ++ dsoPrefix b.len x⟩ : Buf).len + (serDsoDebug b.len x).length < 2 ^ 32 := by
    rw [Buf.len_app, hrl]; omega
  have f4 : (⟨b.inner ++ dsoPrefix b.len x ++ serDsoDebug b.len x⟩ : Buf).len + x.dyn.length < 2 ^ 32 := by
    rw [Buf.len_app, Buf.len_app, hrl]; omega
  unfold opDso
  simp only [hpre]
  rw [← serDsoDebug]
  simp only [Slot.allocWithVal_eq _ _ f3, Arr.writeBytes_eq _ _ f4, Slot.location_of_fit f3]
  simp only [hrl, Buf.len_app, List.append_assoc]

/-- per module (`fill_raw_module`): the CodeView record when there is an identifier (`alloc_array::<u8>` and one
    `set_value_at` per byte — the reserve-then-fill shape of `alloc_from_array`), then the name string; the record
    keeps both offsets -/
def opModuleBlobs : Buf → List DModule → Option (Buf × List Bytes)
  | b, [] => some (b, [])
  | b, m :: r =>
    let b1 : Option Buf := if m.ident.isEmpty then some b else (Arr.allocFromArray b (m.cv.map (fun x => [x])) 1).map (·.1)
    match b1 with
    | none => none
    | some b1 =>
      match writeString b1 m.name with
      | .ok (b2, _) =>
        match opModuleBlobs b2 r with
        | some (b3, recs) => some (b3, moduleRec b.len m :: recs)
        | none => none
      | _ => none

/-- `mappings::write`: the blobs, then the count, then `alloc_from_iter(records)` when there is at least one -/
def opModules (b : Buf) (ms : List DModule) : Option (Buf × DirEnt) :=
  match opModuleBlobs b ms with
  | none => none
  | some (b1, recs) =>
    match Slot.allocWithVal b1 (le 4 ms.length) with
    | none => none
    | some (b2, hdr) =>
      if ms.isEmpty then some (b2, ⟨ST_MODULE_LIST, hdr.location.size, hdr.location.rva⟩) else
      match Arr.allocFromArray b2 recs 108 with
      | none => none
      | some (b3, arr) => some (b3, ⟨ST_MODULE_LIST, hdr.location.size + arr.location.size, hdr.location.rva⟩)

theorem cv_length (m : DModule) : m.cv.length = if m.ident.isEmpty then 0 else 4 + m.ident.length := by
  unfold DModule.cv; by_cases h : m.ident.isEmpty <;> simp [h]

theorem opModuleBlobs_spec (b : Buf) (ms : List DModule) (hb : b.len + (moduleBlobs ms).length < 2 ^ 32) :
    ∃ recs, opModuleBlobs b ms = some (⟨b.inner ++ moduleBlobs ms⟩, recs) ∧
      recs.flatten = moduleRecs b.len ms ∧ recs.length = ms.length ∧ ∀ v ∈ recs, v.length = 108 := by
  induction ms generalizing b with
  | nil => exact ⟨[], by simp [opModuleBlobs, moduleBlobs], by simp [moduleRecs], rfl, by simp⟩
  | cons m r ih =>
    have hl : (moduleBlobs (m :: r)).length = m.cv.length + (mdStr m.name).length + (moduleBlobs r).length := by
      simp [moduleBlobs, DModule.blob, Nat.add_assoc]
    rw [hl, mdStr_length] at hb
    have h1 : (if m.ident.isEmpty then some b else (Arr.allocFromArray b (m.cv.map (fun x => [x])) 1).map (·.1)) =
        some ⟨b.inner ++ m.cv⟩ := by
      by_cases hi : m.ident.isEmpty
      · simp [hi, DModule.cv]
      · simp only [hi, Bool.false_eq_true, if_false, Option.map_some, flatten_singletons,
          Arr.allocFromArray_eq b _ 1 (List.forall_mem_map.mpr fun _ _ => rfl)
            (show b.len + (m.cv.map (fun x => [x])).length * 1 < 2 ^ 32 by rw [List.length_map, Nat.mul_one]; omega)]
    have hws := C16_writeString ⟨b.inner ++ m.cv⟩ m.name (by rw [Buf.len_app]; omega)
    have hlen2 : (⟨b.inner ++ m.cv ++ le 4 (2 * m.name.length) ++ units16LE m.name⟩ : Buf).len =
        b.len + m.cv.length + (mdStr m.name).length := by simp [Buf.len, mdStr, Nat.add_assoc]
    obtain ⟨recs, h2, h3, h4, h5⟩ := ih ⟨b.inner ++ m.cv ++ le 4 (2 * m.name.length) ++ units16LE m.name⟩
      (by rw [hlen2, mdStr_length]; omega)
    refine ⟨moduleRec b.len m :: recs, ?_, ?_, by simp [h4], ?_⟩
    · simp only [opModuleBlobs, h1, hws, h2]
      simp [moduleBlobs, DModule.blob, mdStr, List.append_assoc]
    · simp only [List.flatten_cons, h3, hlen2, moduleRecs]
      simp [DModule.blob, Nat.add_assoc]
    · intro v hv
      rcases List.mem_cons.mp hv with rfl | hv
      · exact moduleRec_length _ _
      · exact h5 v hv

theorem Refine_modules (b : Buf) (ms : List DModule) (hb : b.len + (moduleBlobs ms).length + 4 + 108 * ms.length < 2 ^ 32) :
    opModules b ms = some (⟨b.inner ++ (moduleBlobs ms ++ (le 4 ms.length ++ moduleRecs b.len ms))⟩,
      ⟨ST_MODULE_LIST, 4 + 108 * ms.length, b.len + (moduleBlobs ms).length⟩) := by
  obtain ⟨recs, h1, h2, h3, h4⟩ := opModuleBlobs_spec b ms (by omega)
  have f1 : (⟨b.inner ++ moduleBlobs ms⟩ : Buf).len + (le 4 ms.length).length < 2 ^ 32 := by
    rw [Buf.len_app, le_length]; omega
  simp only [opModules, h1, Slot.allocWithVal_eq _ _ f1, Slot.location_of_fit f1]
  by_cases he : ms.isEmpty
  · have hnil : ms = [] := List.isEmpty_iff.mp he
    subst hnil
    simp [moduleRecs, moduleBlobs]
  · have f2 : (⟨b.inner ++ moduleBlobs ms ++ le 4 ms.length⟩ : Buf).len + recs.length * 108 < 2 ^ 32 := by
      rw [Buf.len_app, Buf.len_app, le_length, h3]; omega
    simp only [he, Bool.false_eq_true, if_false, Arr.allocFromArray_eq _ _ 108 h4 f2, Arr.location_of_fit f2]
    simp only [h2, h3, le_length, Buf.len_app, List.append_assoc, Nat.mul_comm ms.length 108]

end Mdw
