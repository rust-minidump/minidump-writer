/-
  What a reader finds in the image the closed-form model builds (`dumpBytes d`, Model/Dump.lean), for
  every content record `d` — no bound on the number of threads, modules, regions, names or their sizes.

    Image_header        the header a reader decodes
    Image_dir_entry / _dir_read   directory slot k holds the k-th published entry
    Image_thread / _thread_read   thread k's record sits in slot k of the thread list, its stack / context
                        locations are where its stack bytes / its context bytes are   (C01, C04)
    Image_thread_block  every captured stack and instruction-pointer window is registered in the memory
                        list with the location of its bytes                           (C07, C01 alias)
    Image_app_block     every application region likewise                             (C07)
    Image_memory_list   the memory-list stream is the serialised registered blocks   (C07)
    Image_exception_listed  the exception stream names the blamed thread and points at that thread's
                        context (the same location as its thread-list entry)         (C05, C01 alias)
    Image_exception_unlisted  … or at the supplied context, written for the purpose   (C05)
    Image_name          every named thread's record points at its name               (C15)
    Image_module, Image_sysinfo, Image_handle, Image_link_map   CodeView record and name of a module, OS
                        version string, handle names, link-map names: each stored offset designates
                        the object                                                    (C01)
    Image_streams_ordered  published stream extents lie inside the image, after the directory, in
                        publication order without overlap                             (C01)
  The same at every flush point: Theorems/Truncated.lean (C10).

  The driver (Driver/Image.lean) shows on every real dump that the real image *is* `dumpBytes` of the
  content decoded from it; these theorems say what that implies for a reader.

  The pipeline and its invariants are in Theorems/Stages.lean. What a stage appended is found in the finished image
  at the position the accumulator had before it (`stage_at`); each theorem below reads its stage's `step_st*` through
  that. The named accumulators `acc1 … acc19` used in the statements are `accAfter d 1 … accAfter d 19` by unfolding,
  which is what lets `stage_at d k k' (step_st… (acck d))` typecheck.
-/
import MdwModel.Theorems.Stages
namespace Mdw

def acc1 (d : DumpIn) : Acc := stThreadList d (acc0 d)
def acc2 (d : DumpIn) : Acc := stModules d (acc1 d)
def acc3 (d : DumpIn) : Acc := stApp d (acc2 d)
def acc4 (d : DumpIn) : Acc := stMemoryList (acc3 d)
def acc5 (d : DumpIn) : Acc := stException d (acc4 d)
def acc6 (d : DumpIn) : Acc := stSysInfo d (acc5 d)
def acc7 (d : DumpIn) : Acc := stMemInfo d (acc6 d)
def acc14 (d : DumpIn) : Acc :=
  acc7 d |> stRaw ST_LINUX_CPU_INFO d.cpuinfo |> stRaw ST_LINUX_PROC_STATUS d.status |> stRaw ST_LINUX_LSB_RELEASE d.lsb
    |> stRaw ST_LINUX_CMD_LINE d.cmdline |> stRaw ST_LINUX_ENVIRON d.environ |> stRaw ST_LINUX_AUXV d.auxv
    |> stRaw ST_LINUX_MAPS d.maps
def acc16 (d : DumpIn) : Acc := acc14 d |> stDso d |> stRaw ST_MOZ_LINUX_LIMITS d.limits
def acc17 (d : DumpIn) : Acc := stNames d (acc16 d)
def acc19 (d : DumpIn) : Acc := acc17 d |> stHandles d |> stRaw ST_MOZ_SOFT_ERRORS d.soft

theorem acc_base (d : DumpIn) (a : Acc) (h : Acc.Ext (acc0 d) a) : a.base = 32 + 12 * d.numWriters := h.1
theorem base4' (d : DumpIn) : (acc4 d).base = 32 + 12 * d.numWriters := accAfter_base d 4
theorem ext_17_19' (d : DumpIn) : Acc.Ext (acc17 d) (acc19 d) := accAfter_final d 17

theorem dumpBytes_at (d : DumpIn) {o : Nat} {seg : Bytes} (h : At (dumpAcc d).bytes o seg) :
    At (dumpBytes d) (32 + 12 * d.numWriters + o) seg := by
  have := h.append_left (serHeader d.numWriters 32 d.timestamp ++ serDirectory d.numWriters (dumpAcc d).dir)
  simp only [List.length_append, serHeader_length, serDirectory_length] at this
  simpa [dumpBytes, List.append_assoc] using this

theorem stage_at (d : DumpIn) (k k' : Nat) {body : Bytes} {ents : List DirEnt}
    (h : Acc.Step (accAfter d k) (accAfter d k') body ents) : At (dumpBytes d) (accAfter d k).pos body := by
  have := dumpBytes_at d ((accAfter_final d k').at (h.bytes ▸ At.end_ _ body))
  rwa [← accAfter_base d k] at this

/-- (which entry slot `j` holds after `k` stages is found by unfolding the pipeline: `rfl` where this is used) -/
theorem stage_dir (d : DumpIn) (k : Nat) {j : Nat} {e : DirEnt} (h : (accAfter d k).dir[j]? = some e) :
    (dumpAcc d).dir[j]? = some e := (accAfter_final d k).dir h

theorem Image_header (d : DumpIn) (hn : d.numWriters < 2 ^ 32) (ht : d.timestamp < 2 ^ 32) :
    decodeHeader (Img.ofBytes (dumpBytes d)) =
      some ⟨MD_SIGNATURE, MD_VERSION, d.numWriters, 32, 0, d.timestamp, 0⟩ := by
  have h0 : At (dumpBytes d) 0 (le 4 MD_SIGNATURE ++ (le 4 MD_VERSION ++ (le 4 d.numWriters ++ (le 4 32 ++ (le 4 0 ++
      (le 4 d.timestamp ++ (le 8 0 ++ (serDirectory d.numWriters (dumpAcc d).dir ++ (dumpAcc d).bytes)))))))) := by
    simpa [dumpBytes, serHeader, List.append_assoc] using At.whole (dumpBytes d)
  have h4 := h0.next 4 (le_length _ _)
  have h8 := h4.next 4 (le_length _ _)
  have h12 := h8.next 4 (le_length _ _)
  have h16 := h12.next 4 (le_length _ _)
  have h20 := h16.next 4 (le_length _ _)
  have h24 := h20.next 4 (le_length _ _)
  simp only [decodeHeader, h0.sub_head.imgU32 (by decide), h4.sub_head.imgU32 (by decide), h8.sub_head.imgU32 hn,
    h12.sub_head.imgU32 (by decide), h16.sub_head.imgU32 (by decide), h20.sub_head.imgU32 ht,
    h24.sub_head.imgU64 (by decide)]
  rfl

/-- **Image (directory).** slot `k` of the directory holds the `k`-th published entry -/
theorem Image_dir_entry (d : DumpIn) (k : Nat) (e : DirEnt) (hk : k < d.numWriters) (he : (dumpAcc d).dir[k]? = some e) :
    At (dumpBytes d) (32 + 12 * k) (serDirEnt e) := by
  have h1 : ((dumpAcc d).dir.take d.numWriters)[k]? = some e := by
    rw [List.getElem?_take]; simp [hk, he]
  have h2 := At.flatMap_const serDirEnt 12 serDirEnt_length _ k e h1
  have h3 : At (serDirectory d.numWriters (dumpAcc d).dir ++ (dumpAcc d).bytes) (12 * k) (serDirEnt e) :=
    (h2.append_right _).append_right _
  have h4 := At.skip (serHeader d.numWriters 32 d.timestamp) 32 (serHeader_length _ _ _) h3
  simpa [dumpBytes, List.append_assoc] using h4

theorem Image_dir_read (d : DumpIn) (k : Nat) (e : DirEnt) (hk : k < d.numWriters) (he : (dumpAcc d).dir[k]? = some e)
    (hf : e.ty < 2 ^ 32 ∧ e.size < 2 ^ 32 ∧ e.rva < 2 ^ 32) :
    let i := Img.ofBytes (dumpBytes d)
    i.u32 (32 + 12 * k) = some e.ty ∧ i.u32 (32 + 12 * k + 4) = some e.size ∧ i.u32 (32 + 12 * k + 8) = some e.rva := by
  intro i
  have h := Image_dir_entry d k e hk he
  unfold serDirEnt at h
  rw [List.append_assoc] at h
  have h1 := h.next 4 (le_length _ _)
  exact ⟨h.sub_head.imgU32 hf.1, h1.sub_head.imgU32 hf.2.1, (h1.next 4 (le_length _ _)).imgU32 hf.2.2⟩

/-- offset of thread `k`'s blobs within the blob area -/
def blobOff (ts : List DThread) (k : Nat) : Nat := (threadBlobs (ts.take k)).length

theorem blobOff_eq (ts : List DThread) (k : Nat) : blobOff ts k = sumLen (fun t => t.blob.length) (ts.take k) :=
  (sumLen_flatMap DThread.blob _).symm

theorem blobOff_succ (a : DThread) (r : List DThread) (k : Nat) : blobOff (a :: r) (k + 1) = a.blob.length + blobOff r k := by
  simp only [blobOff, threadBlobs, List.take_succ_cons, List.flatMap_cons, List.length_append]

theorem threadRecs_at (pos : Nat) (ts : List DThread) (k : Nat) (t : DThread) (h : ts[k]? = some t) :
    At (threadRecs pos ts) (48 * k) (threadRec (pos + blobOff ts k) t) := by
  rw [threadRecs_eq, blobOff_eq]; exact recsGen_at _ _ 48 threadRec_length pos ts k t h

/-- position of thread `k`'s blobs in the image -/
def threadPos (d : DumpIn) (k : Nat) : Nat :=
  32 + 12 * d.numWriters + 4 + 48 * d.threads.length + blobOff d.threads k

theorem threadList_at (d : DumpIn) :
    At (dumpBytes d) (32 + 12 * d.numWriters) (threadListBody (32 + 12 * d.numWriters) d.threads) := by
  have : At (dumpBytes d) (acc0 d).pos _ := stage_at d 0 1 (step_stThreadList d (acc0 d))
  simpa [Acc.pos, acc0] using this

/-- **Image (thread).** Thread `k`'s record occupies slot `k` of the thread list; the stack location it stores is
    where the captured stack bytes are, the window follows, and the context location it stores is where the
    context bytes are. -/
theorem Image_thread (d : DumpIn) (k : Nat) (t : DThread) (hk : d.threads[k]? = some t) :
    let img := dumpBytes d
    let p := threadPos d k
    At img (32 + 12 * d.numWriters + 4 + 48 * k) (threadRec p t) ∧
    At img p t.stackBytes ∧
    At img (p + t.stackLen) t.windowBytes ∧
    At img (t.ctxRva p) t.ctx := by
  intro img p
  have hb := threadList_at d
  unfold threadListBody at hb
  have hrec := (hb.sub (a := le 4 d.threads.length)).trans (threadRecs_at _ d.threads k t hk)
  have hblob : At img p t.blob := by
    have := hb.sub_tail.trans (At.flatMap_take DThread.blob d.threads k t hk)
    simpa [threadRecs_length, Nat.add_assoc, p, threadPos, blobOff, threadBlobs] using this
  unfold DThread.blob at hblob
  refine ⟨by simpa [Nat.add_assoc, p, threadPos] using hrec, hblob.sub_head.sub_head, ?_, ?_⟩
  · exact t.stackBytes_length ▸ hblob.sub (a := t.stackBytes)
  · have := hblob.sub_tail
    rwa [List.length_append, t.stackBytes_length, t.windowBytes_length, ← Nat.add_assoc] at this

theorem Image_thread_read (d : DumpIn) (k : Nat) (t : DThread) (hk : d.threads[k]? = some t)
    (hsz : (dumpBytes d).length < 2 ^ 32) (htid : t.tid < 2 ^ 32)
    (hstart : (match t.stack with | some (s, _) => s | none => t.sp) < 2 ^ 64) :
    let i := Img.ofBytes (dumpBytes d)
    let o := 32 + 12 * d.numWriters + 4 + 48 * k
    let p := threadPos d k
    i.u32 o = some t.tid ∧ i.u64 (o + 24) = some (match t.stack with | some (s, _) => s | none => t.sp) ∧
    i.u32 (o + 32) = some t.stackLen ∧ i.u32 (o + 36) = some p ∧
    i.u32 (o + 40) = some t.ctx.length ∧ i.u32 (o + 44) = some (t.ctxRva p) ∧
    i.bytes p t.stackLen = some t.stackBytes ∧ i.bytes (t.ctxRva p) t.ctx.length = some t.ctx := by
  intro i o p
  obtain ⟨hr, hs, _, hc⟩ := Image_thread d k t hk
  have b1 := hs.inside
  have b2 := hc.inside
  rw [t.stackBytes_length] at b1
  have hp : p < 2 ^ 32 := by show threadPos d k < 2 ^ 32; omega
  have hcr : t.ctxRva (threadPos d k) < 2 ^ 32 := by omega
  unfold threadRec at hr
  simp only [List.append_assoc] at hr
  -- one pass over the record: tid, three u32 and a u64 that stay zero, then the five fields read here
  have r5 := ((((hr.next 4 (le_length _ _)).next 4 (le_length _ _)).next 4 (le_length _ _)).next 4 (le_length _ _)).next 8
    (le_length _ _)
  have r6 := r5.next 8 (le_length _ _)
  have r7 := r6.next 4 (le_length _ _)
  have r8 := r7.next 4 (le_length _ _)
  have r9 := r8.next 4 (le_length _ _)
  exact ⟨hr.sub_head.imgU32 htid, r5.sub_head.imgU64 hstart, r6.sub_head.imgU32 (by omega), r7.sub_head.imgU32 hp,
    r8.sub_head.imgU32 (by omega), r9.imgU32 hcr, t.stackBytes_length ▸ hs.imgBytes, hc.imgBytes⟩

theorem threadBlocksAt_mem (pos : Nat) (ts : List DThread) (k : Nat) (t : DThread) (h : ts[k]? = some t) :
    (∀ s b, t.stack = some (s, b) → (⟨s, b.length, pos + blobOff ts k⟩ : Desc) ∈ threadBlocksAt pos ts) ∧
    (∀ s b, t.window = some (s, b) → (⟨s, b.length, pos + blobOff ts k + t.stackLen⟩ : Desc) ∈ threadBlocksAt pos ts) := by
  have hmem := fun y => posFold_mem (f := threadBlocksAt) (blobLen := fun t => t.blob.length) (y := y)
    (fun _ => rfl) (fun _ _ _ => rfl) pos ts k t h
  rw [blobOff_eq]
  exact ⟨fun s b hs => hmem _ (by simp [hs]), fun s b hw => hmem _ (by simp [hw])⟩

def appOff (app : List (Nat × Bytes)) (j : Nat) : Nat := (appBlobs (app.take j)).length

theorem appBlocksAt_mem (pos : Nat) (app : List (Nat × Bytes)) (j : Nat) (a : Nat) (b : Bytes) (h : app[j]? = some (a, b)) :
    (⟨a, b.length, pos + appOff app j⟩ : Desc) ∈ appBlocksAt pos app := by
  rw [appOff, appBlobs, ← sumLen_flatMap]
  exact posFold_mem (f := appBlocksAt) (piece := fun p x => [⟨x.1, x.2.length, p⟩]) (fun _ => rfl) (fun _ _ _ => rfl)
    pos app j (a, b) h List.mem_cons_self

theorem blocks3 (d : DumpIn) :
    (acc3 d).blocks = threadBlocksAt (32 + 12 * d.numWriters + 4 + 48 * d.threads.length) d.threads ++
      appBlocksAt (acc2 d).pos d.app := by
  simp [acc3, acc2, acc1, acc0, stApp, stModules, stThreadList, Acc.add, Acc.publish, Acc.pos]

/-- **Image (stacks and windows are registered).** every captured stack and every instruction-pointer window is a
    memory-list block whose location is where its bytes are — the same location the thread record stores -/
theorem Image_thread_block (d : DumpIn) (k : Nat) (t : DThread) (hk : d.threads[k]? = some t) :
    (∀ s b, t.stack = some (s, b) →
      (⟨s, b.length, threadPos d k⟩ : Desc) ∈ (acc3 d).blocks ∧ At (dumpBytes d) (threadPos d k) b) ∧
    (∀ s b, t.window = some (s, b) →
      (⟨s, b.length, threadPos d k + t.stackLen⟩ : Desc) ∈ (acc3 d).blocks ∧ At (dumpBytes d) (threadPos d k + t.stackLen) b) := by
  obtain ⟨_, hs, hw, _⟩ := Image_thread d k t hk
  have hm := threadBlocksAt_mem (32 + 12 * d.numWriters + 4 + 48 * d.threads.length) d.threads k t hk
  rw [blocks3]
  constructor
  · intro s b h
    refine ⟨List.mem_append_left _ (hm.1 s b h), ?_⟩
    have : t.stackBytes = b := by simp [DThread.stackBytes, h]
    exact this ▸ hs
  · intro s b h
    refine ⟨List.mem_append_left _ (hm.2 s b h), ?_⟩
    have : t.windowBytes = b := by simp [DThread.windowBytes, h]
    exact this ▸ hw

theorem Image_app_block (d : DumpIn) (j : Nat) (a : Nat) (b : Bytes) (hj : d.app[j]? = some (a, b)) :
    (⟨a, b.length, (acc2 d).pos + appOff d.app j⟩ : Desc) ∈ (acc3 d).blocks ∧
    At (dumpBytes d) ((acc2 d).pos + appOff d.app j) b := by
  rw [blocks3]
  exact ⟨List.mem_append_right _ (appBlocksAt_mem _ _ j a b hj),
    (stage_at d 2 3 (step_stApp d (acc2 d))).trans (At.flatMap_take (fun x : Nat × Bytes => x.2) d.app j (a, b) hj)⟩

/-- **Image (memory list).** the memory-list stream — published in directory slot 2 — is the serialised list of
    registered blocks: stacks and windows in thread order, then the application regions -/
theorem Image_memory_list (d : DumpIn) :
    (dumpAcc d).dir[2]? = some ⟨ST_MEMORY_LIST, 4 + 16 * (acc3 d).blocks.length, (acc3 d).pos⟩ ∧
    At (dumpBytes d) (acc3 d).pos (memoryListStream (acc3 d).blocks) :=
  ⟨stage_dir d 4 rfl, stage_at d 3 4 (step_stMemoryList (acc3 d))⟩

theorem ctcAt_none (blamed : Nat) (hc : Bool) (pos : Nat) (ts : List DThread) (c : CTC)
    (h : ∀ t ∈ ts, t.tid ≠ blamed) : ctcAt blamed hc pos ts c = c := by
  induction ts generalizing pos c with
  | nil => rfl
  | cons a r ih =>
    have ha : a.tid ≠ blamed := h a (List.mem_cons_self ..)
    simp only [ctcAt, ha, if_false]
    exact ih _ _ (fun t ht => h t (List.mem_cons_of_mem _ ht))

/-- the crashing-thread context is that of the last listed thread with the blamed id -/
theorem ctcAt_spec (blamed : Nat) (hc : Bool) (pos : Nat) (ts : List DThread) (c : CTC) (k : Nat) (t : DThread)
    (hk : ts[k]? = some t) (ht : t.tid = blamed)
    (hlast : ∀ j t', k < j → ts[j]? = some t' → t'.tid ≠ blamed) :
    ctcAt blamed hc pos ts c =
      if hc then CTC.crashContext (t.ctx.length, t.ctxRva (pos + blobOff ts k))
      else CTC.crashContextPlusAddress (t.ctx.length, t.ctxRva (pos + blobOff ts k)) t.ip := by
  induction ts generalizing pos c k with
  | nil => simp at hk
  | cons a r ih =>
    cases k with
    | zero =>
      simp at hk; subst hk
      have hr : ∀ t' ∈ r, t'.tid ≠ blamed := by
        intro t' hm
        obtain ⟨j, hj⟩ := List.getElem?_of_mem hm
        exact hlast (j + 1) t' (by omega) (by simpa using hj)
      simp only [ctcAt, ht, if_true]
      rw [ctcAt_none blamed hc _ r _ hr]
      simp [blobOff, threadBlobs]
    | succ k =>
      have hr : r[k]? = some t := by simpa using hk
      have hl : ∀ j t', k < j → r[j]? = some t' → t'.tid ≠ blamed := by
        intro j t' hj hjt
        exact hlast (j + 1) t' (by omega) (by simpa using hjt)
      simp only [ctcAt]
      rw [ih (pos + a.blob.length) _ k hr hl, Nat.add_assoc pos, ← blobOff_succ]

/-- **Image (exception, blamed thread listed).** `t` the last listed thread with the blamed id. The exception stream —
    directory slot 3 — names the blamed thread,
    carries the supplied signal number / code / address (or "dump requested" and the thread's instruction
    pointer), and its context location is exactly the location stored in the blamed thread's thread-list record,
    where that thread's context bytes are. -/
theorem Image_exception_listed (d : DumpIn) (k : Nat) (t : DThread) (hk : d.threads[k]? = some t) (ht : t.tid = d.blamed)
    (hlast : ∀ j t', k < j → d.threads[j]? = some t' → t'.tid ≠ d.blamed) :
    let loc := (t.ctx.length, t.ctxRva (threadPos d k))
    let f := match d.crash with
      | some c => (c.signo, c.code, c.addr)
      | none => (DUMP_REQUESTED, 0, t.ip)
    (dumpAcc d).dir[3]? = some ⟨ST_EXCEPTION, 168, (acc4 d).pos⟩ ∧
    At (dumpBytes d) (acc4 d).pos (serExc d.blamed f.1 f.2.1 f.2.2 loc.1 loc.2) ∧
    At (dumpBytes d) loc.2 t.ctx := by
  intro loc f
  have hctc : ctcOf d = if d.crash.isSome then CTC.crashContext loc else CTC.crashContextPlusAddress loc t.ip :=
    ctcAt_spec d.blamed d.crash.isSome _ d.threads CTC.none k t hk ht hlast
  have hns : needsStandalone d = false := by
    unfold needsStandalone
    rw [hctc]
    cases d.crash <;> simp
  have hstream : exceptionStream d.crash d.blamed (ctcOf d) (d.standalone.length, (acc4 d).pos) =
      serExc d.blamed f.1 f.2.1 f.2.2 loc.1 loc.2 := by
    rw [hctc]
    unfold exceptionStream excFields
    cases hcr : d.crash with
    | none => simp [f, hcr]
    | some c => simp [f, hcr]
  have hstep := step_stException d (acc4 d)
  simp only [hns, hstream, Bool.false_eq_true, if_false, List.nil_append, List.length_nil, Nat.add_zero] at hstep
  refine ⟨stage_dir d 5 ?_, stage_at d 4 5 hstep, (Image_thread d k t hk).2.2.2⟩
  rw [show (accAfter d 5).dir = _ from hstep.dir]
  rfl

/-- **Image (exception, blamed thread not listed, crash context supplied).** The supplied context is written for the
    exception stream itself and the stream points at it. -/
theorem Image_exception_unlisted (d : DumpIn) (c : CrashInfo) (hc : d.crash = some c)
    (hno : ∀ t ∈ d.threads, t.tid ≠ d.blamed) :
    At (dumpBytes d) (acc4 d).pos d.standalone ∧
    At (dumpBytes d) ((acc4 d).pos + d.standalone.length)
      (serExc d.blamed c.signo c.code c.addr d.standalone.length (acc4 d).pos) := by
  have hctc : ctcOf d = CTC.none := ctcAt_none _ _ _ _ _ hno
  have hns : needsStandalone d = true := by
    unfold needsStandalone; rw [hctc, hc]; rfl
  have h := stage_at d 4 5 (step_stException d (acc4 d))
  simp only [hns, if_true, hctc, hc, exceptionStream, excFields] at h
  exact ⟨h.sub_head, h.sub_tail⟩

def nameOff (ns : List (Nat × List Nat)) (j : Nat) : Nat := ((ns.take j).flatMap (fun n => mdStr n.2)).length

theorem nameRecs_at (pos : Nat) (ns : List (Nat × List Nat)) (j : Nat) (tid : Nat) (us : List Nat)
    (h : ns[j]? = some (tid, us)) : At (nameRecs pos ns) (12 * j) (nameRecord tid (pos + nameOff ns j)) := by
  rw [nameRecs_eq, nameOff, ← sumLen_flatMap]
  exact recsGen_at _ _ 12 (fun _ _ => nameRecord_length _ _) pos ns j (tid, us) h

/-- **Image (thread names).** The thread-names stream sits where the names writer started; record `j` of it
    carries the id of the `j`-th named thread and the location of a string that is that thread's name. -/
theorem Image_name (d : DumpIn) (j : Nat) (tid : Nat) (us : List Nat) (hj : d.names[j]? = some (tid, us)) :
    let pos := (acc16 d).pos
    let q := pos + 4 + 12 * d.names.length + nameOff d.names j
    At (dumpBytes d) pos (le 4 d.names.length) ∧
    At (dumpBytes d) (pos + 4 + 12 * j) (nameRecord tid q) ∧
    At (dumpBytes d) q (mdStr us) := by
  intro pos q
  have hb : At (dumpBytes d) pos (namesBody pos d.names) := stage_at d 16 17 (step_stNames d (acc16 d))
  unfold namesBody at hb
  have hrec := (hb.sub (a := le 4 d.names.length)).trans (nameRecs_at _ d.names j tid us hj)
  have hstr := hb.sub_tail.trans (At.flatMap_take (fun n : Nat × List Nat => mdStr n.2) d.names j (tid, us) hj)
  exact ⟨hb.sub_head.sub_head, by simpa [Nat.add_assoc, q] using hrec,
    by simpa [nameRecs_length, Nat.add_assoc, q, nameOff] using hstr⟩

/-- **Image (streams ordered).** In the finished image the published stream extents start after the directory, follow
    one another in publication order without overlap, and end inside the image. -/
theorem Image_streams_ordered (d : DumpIn) :
    Sorted (32 + 12 * d.numWriters) (dumpAcc d).dir (dumpBytes d).length := by
  have h := accAfter_ordered d 19
  have hb := accAfter_base d 19
  rw [accAfter_all] at h hb
  unfold Acc.Ordered at h
  rw [hb] at h
  rwa [show (dumpBytes d).length = (dumpAcc d).pos from imgOf_length d (dumpAcc d) hb]

/-- position of module `k`'s blobs (CodeView record, then name) in the image -/
def modulePos (d : DumpIn) (k : Nat) : Nat := (acc1 d).pos + sumLen (fun m : DModule => m.blob.length) (d.modules.take k)

/-- **Image (module).** Module `k`'s record sits in slot `k` of the module list (published in directory slot 1); the
    CodeView location it stores is where the signature and the identifier are, the name location it stores is where
    the module's name string is. -/
theorem Image_module (d : DumpIn) (k : Nat) (m : DModule) (hk : d.modules[k]? = some m) :
    let cnt := (acc1 d).pos + (moduleBlobs d.modules).length
    (dumpAcc d).dir[1]? = some ⟨ST_MODULE_LIST, 4 + 108 * d.modules.length, cnt⟩ ∧
    At (dumpBytes d) cnt (le 4 d.modules.length) ∧
    At (dumpBytes d) (cnt + 4 + 108 * k) (moduleRec (modulePos d k) m) ∧
    At (dumpBytes d) (modulePos d k) m.cv ∧
    At (dumpBytes d) (modulePos d k + m.cv.length) (mdStr m.name) := by
  intro cnt
  have hb : At (dumpBytes d) (acc1 d).pos _ := stage_at d 1 2 (step_stModules d (acc1 d))
  have htail := hb.sub_tail
  have hrec := htail.sub_tail.trans (moduleRecs_eq _ _ ▸ recsGen_at moduleRec _ 108 moduleRec_length (acc1 d).pos d.modules k m hk)
  have hblob : At (dumpBytes d) (modulePos d k) m.blob := hb.sub_head.trans (blob_at DModule.blob d.modules k m hk)
  unfold DModule.blob at hblob
  exact ⟨stage_dir d 2 rfl, htail.sub_head, by simpa [Nat.add_assoc, cnt, modulePos] using hrec, hblob.sub_head, hblob.sub_tail⟩

/-- **Image (system info).** The record is where the system-info writer started and the OS version location it stores is
    where the version string is (right after the record). -/
theorem Image_sysinfo (d : DumpIn) :
    At (dumpBytes d) (acc5 d).pos (serSysInfo d.sys ((acc5 d).pos + 56)) ∧
    At (dumpBytes d) ((acc5 d).pos + 56) (mdStr d.sys.os) := by
  have hb : At (dumpBytes d) (acc5 d).pos _ := stage_at d 5 6 (step_stSysInfo d (acc5 d))
  exact ⟨hb.sub_head, serSysInfo_length d.sys _ ▸ hb.sub_tail⟩

/-- **Image (handle).** When the handle writer succeeded, descriptor `k` carries the descriptor number and mode of
    the `k`-th open file and the location of a string that is its link target. -/
theorem Image_handle (d : DumpIn) (hs : List DHandle) (hok : d.handles = .ok hs) (k : Nat) (h : DHandle) (hk : hs[k]? = some h) :
    let pos := (acc17 d).pos
    let q := pos + sumLen (fun x : DHandle => (mdStr x.name).length) (hs.take k)
    let hdr := pos + (handleNames hs).length
    At (dumpBytes d) hdr (le 4 16 ++ le 4 32 ++ le 4 hs.length ++ le 4 0) ∧
    At (dumpBytes d) (hdr + 16 + 32 * k) (le 8 h.fd ++ le 4 0 ++ le 4 q ++ le 4 h.attrs ++ le 4 0 ++ le 4 0 ++ le 4 0) ∧
    At (dumpBytes d) q (mdStr h.name) := by
  intro pos q hdr
  have hb : At (dumpBytes d) pos _ := stage_at d 17 18 (step_stHandles d (acc17 d) hs hok)
  have htail := hb.sub_tail
  have hrec := htail.sub_tail.trans (handleRecs_eq _ _ ▸ recsGen_at _ _ 32 handleRec_length (acc17 d).pos hs k h hk)
  exact ⟨htail.sub_head, by simpa [handleRec, Nat.add_assoc, hdr, q, pos] using hrec,
    hb.sub_head.trans (blob_at (fun x : DHandle => mdStr x.name) hs k h hk)⟩

/-- **Image (link map).** When the linker-debug writer succeeded with a non-empty list, entry `k` of the link-map
    array carries the load address and dynamic-section address of the `k`-th loaded object and the location of a
    string that is its name; the MDRawDebug record stores the array's location and is followed by the dynamic bytes. -/
theorem Image_link_map (d : DumpIn) (x : DDso) (hok : d.dso = .ok x) (hne : x.maps ≠ []) (k : Nat) (m : DLinkMap)
    (hk : x.maps[k]? = some m) :
    let pos := (acc14 d).pos
    let q := pos + 20 * x.maps.length + sumLen (fun y : DLinkMap => (mdStr y.name).length) (x.maps.take k)
    At (dumpBytes d) (pos + 20 * k) (le 8 m.addr ++ le 4 q ++ le 8 m.ld) ∧
    At (dumpBytes d) q (mdStr m.name) ∧
    At (dumpBytes d) (pos + (dsoPrefix pos x).length) (serDsoDebug pos x ++ x.dyn) := by
  intro pos q
  have hpre : dsoPrefix pos x = linkMapRecs (pos + 20 * x.maps.length) x.maps ++ linkMapNames x.maps := by
    simp [dsoPrefix, hne]
  have hb : At (dumpBytes d) pos _ := stage_at d 14 15 (step_stDso d (acc14 d) x hok)
  have hprefix := hb.sub_head
  rw [hpre] at hprefix
  have hnames := hprefix.sub_tail
  rw [linkMapRecs_length] at hnames
  exact ⟨hprefix.sub_head.trans (linkMapRecs_eq _ _ ▸ recsGen_at _ _ 20 linkMapRec_length _ x.maps k m hk),
    hnames.trans (blob_at (fun y : DLinkMap => mdStr y.name) x.maps k m hk), hb.sub_tail⟩

end Mdw
