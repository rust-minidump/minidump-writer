/- What is recorded as a thread's name (Model/CommName.lean, the definition the live C15 check evaluates): the kernel's
   name exactly, whenever that name does not itself end in white space — 15-byte names keep their last byte, line feeds
   inside a name are kept. That the code reads the whole file and only trims its end is a regenerated source fact
   (`Src.threadNameTrimEndOnly`; false under the seeds C15_r18 — a 15-byte cap and a `pop` — and C15_r20 — cut at the
   first line feed). -/
import MdwModel.Model.CommName
import MdwModel.Generated.Source
namespace Mdw

theorem CommName_source_agrees : Src.threadNameTrimEndOnly = none ∨ Src.threadNameTrimEndOnly = some true := by decide

/-- a name that does not end in white space is recorded exactly — whatever it contains, whatever its length — when the
    file holds it followed by any run of white space (the kernel appends one line feed) -/
theorem CommName_exact (n : Bytes) (x : UInt8) (hx : isTrailWs x = false) (w : Bytes) (hw : ∀ b ∈ w, isTrailWs b = true) :
    nameOfComm (n ++ x :: w) = n ++ [x] := by
  have hw' : ∀ b ∈ w.reverse, isTrailWs b = true := fun b hb => hw b (List.mem_reverse.mp hb)
  rw [nameOfComm, List.reverse_append, List.reverse_cons, List.append_assoc,
    List.dropWhile_append_of_pos hw', List.singleton_append, List.dropWhile_cons, hx]
  simp only [Bool.false_eq_true, if_false, List.reverse_cons, List.reverse_reverse]

/-- … in particular with the kernel's single line feed -/
theorem CommName_kernel (n : Bytes) (x : UInt8) (hx : isTrailWs x = false) : nameOfComm (n ++ [x, 10]) = n ++ [x] :=
  CommName_exact n x hx [10] fun b hb => by
    cases List.mem_singleton.mp hb
    rfl

/-- the empty name, or one made of white space only, is recorded as the empty name -/
theorem CommName_blank (w : Bytes) (hw : ∀ b ∈ w, isTrailWs b = true) : nameOfComm w = [] := by
  have hw' : ∀ b ∈ w.reverse, isTrailWs b = true := fun b hb => hw b (List.mem_reverse.mp hb)
  rw [nameOfComm, ← List.append_nil w.reverse, List.dropWhile_append_of_pos hw']
  rfl

/-- a 15-byte name keeps its last byte; a line feed inside a name is kept -/
example : nameOfComm [84, 104, 114, 101, 97, 100, 80, 111, 111, 108, 70, 111, 114, 101, 103, 10]
      = [84, 104, 114, 101, 97, 100, 80, 111, 111, 108, 70, 111, 114, 101, 103]      -- "ThreadPoolForeg\n"
    ∧ nameOfComm [105, 111, 10, 119, 111, 114, 107, 101, 114, 10] = [105, 111, 10, 119, 111, 114, 107, 101, 114] := by   -- "io\nworker\n"
  decide

end Mdw
