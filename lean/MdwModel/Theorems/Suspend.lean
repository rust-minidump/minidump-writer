/- `suspend_threads` as the C04 / C11 properties need it: every enumerated thread is approached;
   the list that remains is exactly the threads whose attach sequence succeeded, in their original order (`retain`);
   every other thread counts as reported (`suspendReported` is the complement of the kept ones); and "no thread
   left" is the failure of the step as a whole, decided on the list
   as it is *after* the step. Two facts about the source are regenerated on every run: the loop is a `retain` over
   `suspend_thread` (no index arithmetic that could step over the thread behind a removed one), and the emptiness test
   of `dump()` comes after `suspend_threads`. -/
import MdwModel.Lemmas.Ptrace
import MdwModel.Generated.Source
namespace Mdw

/-- does the attach sequence of this thread leave it attached and stopped (kept in the list)? -/
def kept (p : Nat × AttachOutcome) : Bool := (suspendThread p.1 p.2).2

/-- the threads reported as soft errors of the step: those not kept -/
def suspendReported (ths : List (Nat × AttachOutcome)) : List Nat := (ths.filter (fun p => !kept p)).map (·.1)

/-- `SuspendNoThreadsLeft` is pushed: the list is empty after the step -/
def noThreadsLeft (ths : List (Nat × AttachOutcome)) : Bool := (suspendAll ths).2.isEmpty

theorem Suspend_source_agrees :
    (Src.suspendUsesRetain = none ∨ Src.suspendUsesRetain = some true) ∧
    (Src.noThreadsLeftAfterSuspend = none ∨ Src.noThreadsLeftAfterSuspend = some true) := by decide

/-- the list that remains: exactly the kept threads, in enumeration order -/
theorem Suspend_retained (ths : List (Nat × AttachOutcome)) :
    (suspendAll ths).2 = (ths.filter kept).map (·.1) :=
  congrArg Prod.snd (suspendAll_eq ths)

/-- every enumerated thread is approached: its attach is attempted (no thread is stepped over) -/
theorem Suspend_every_thread_tried (ths : List (Nat × AttachOutcome)) (p : Nat × AttachOutcome) (hp : p ∈ ths) :
    Action.attach p.1 ∈ (suspendAll ths).1 ∨ Action.attachFailed p.1 ∈ (suspendAll ths).1 := by
  have hd : Action.attach p.1 ∈ (suspendThread p.1 p.2).1 ∨ Action.attachFailed p.1 ∈ (suspendThread p.1 p.2).1 := by
    cases p.2 with
    | attachFails => exact .inr (.head _)
    | _ => exact .inl (.head _)
  rw [suspendAll_eq]
  exact hd.imp (fun h => List.mem_flatMap.2 ⟨p, hp, h⟩) (fun h => List.mem_flatMap.2 ⟨p, hp, h⟩)

/-- a thread whose attach sequence succeeds is in the list afterwards, whatever happened to the threads before it -/
theorem Suspend_kept_listed (ths : List (Nat × AttachOutcome)) (p : Nat × AttachOutcome) (hp : p ∈ ths)
    (hk : kept p = true) : p.1 ∈ (suspendAll ths).2 := by
  rw [Suspend_retained]
  exact List.mem_map.mpr ⟨p, List.mem_filter.mpr ⟨hp, hk⟩, rfl⟩

/-- kept and reported threads together are the enumeration, up to order -/
theorem Suspend_perm (ths : List (Nat × AttachOutcome)) :
    ((suspendAll ths).2 ++ suspendReported ths).Perm (ths.map (·.1)) := by
  rw [Suspend_retained, suspendReported, ← List.map_append]
  exact (List.filter_append_perm kept ths).map _

/-- every thread is either in the list afterwards or reported, never both (by position) -/
theorem Suspend_partition (ths : List (Nat × AttachOutcome)) :
    ((suspendAll ths).2.length + (suspendReported ths).length = ths.length) := by
  have := (Suspend_perm ths).length_eq
  rwa [List.length_append, List.length_map] at this

/-- the step fails as a whole exactly when no thread's attach sequence succeeds — then every thread is reported too -/
theorem Suspend_no_threads_left (ths : List (Nat × AttachOutcome)) :
    noThreadsLeft ths = true ↔ ∀ p ∈ ths, kept p = false := by
  unfold noThreadsLeft
  rw [Suspend_retained]
  simp only [List.isEmpty_iff, List.map_eq_nil_iff, List.filter_eq_nil_iff, Bool.not_eq_true]

theorem Suspend_no_threads_left_reported (ths : List (Nat × AttachOutcome)) (h : noThreadsLeft ths = true) :
    suspendReported ths = ths.map (·.1) := by
  have := (Suspend_no_threads_left ths).mp h
  unfold suspendReported
  congr 1
  exact List.filter_eq_self.mpr (fun p hp => by simp [this p hp])

/-- not vacuous: a thread behind an unattachable one is attached and kept; with every thread unattachable none is left -/
example : (suspendAll [(1, .attachFails), (2, .stops []), (3, .stops [10])]).2 = [2, 3]
    ∧ noThreadsLeft [(1, .attachFails), (2, .attachFails)] = true
    ∧ suspendReported [(1, .attachFails), (2, .attachFails)] = [1, 2] := by decide

end Mdw
