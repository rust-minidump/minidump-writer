/-
  C04 — The thread list is a complete, register-accurate, consistent snapshot

    C04_context_registers  (i)  the general-purpose, flag, segment and debug registers obtained by ptrace, the x87
                                control and status words, MXCSR and the two register blocks sit at their WinNT
                                CONTEXT offsets in the serialised record (C04_image_thread: the thread-list entry
                                points at that record)
    C04_list_complete / _nodup, C04_own_registers, C04_omitted_reported
                           (ii) the list is exactly the enumerated threads that could be attached
                                and do not run with a null stack pointer, once each, each with its
                                own registers; every omitted thread is reported as a soft error
    plan_no_target_read_after_resume (iii, partial) no step that reads target memory or registers
                                is placed after the threads are resumed (regenerated source fact);
                                the suspend/resume bracket itself is C03's dumper script
    C04_image_thread, C04_refine_thread_list   the thread list in the image of any content, and the writer's
                                builder operations producing it (Theorems/Image.lean, RefineLoop.lean)
  (ii) is about a list model of its own (`TTask`, `retained`, `threadRecords`, defined here); `suspend_threads` over
  the dumper script is Theorems/Suspend.lean.
-/
import MdwModel.Theorems.CtxLayout
import MdwModel.Theorems.Plan
import MdwModel.Theorems.RefineLoop
import MdwModel.Theorems.Image
namespace Mdw

structure PtraceOk (r : UserRegs) (f : FpState) (d : List Nat) : Prop where
  r64 : r.r15 < 2 ^ 64 ∧ r.r14 < 2 ^ 64 ∧ r.r13 < 2 ^ 64 ∧ r.r12 < 2 ^ 64 ∧ r.rbp < 2 ^ 64 ∧ r.rbx < 2 ^ 64 ∧
        r.r11 < 2 ^ 64 ∧ r.r10 < 2 ^ 64 ∧ r.r9 < 2 ^ 64 ∧ r.r8 < 2 ^ 64 ∧ r.rax < 2 ^ 64 ∧ r.rcx < 2 ^ 64 ∧
        r.rdx < 2 ^ 64 ∧ r.rsi < 2 ^ 64 ∧ r.rdi < 2 ^ 64 ∧ r.rip < 2 ^ 64 ∧ r.rsp < 2 ^ 64
  d64 : ∀ i, d.getD i 0 < 2 ^ 64
  cwd : f.cwd < 2 ^ 16
  swd : f.swd < 2 ^ 16
  fop : f.fop < 2 ^ 16
  mxcsr : f.mxcsr < 2 ^ 32
  mask : f.mxcrMask < 2 ^ 32

theorem fits_of_ptrace (r : UserRegs) (f : FpState) (d : List Nat) (h : PtraceOk r f d) :
    (fillCtxFromPtrace r f d).Fits := by
  obtain ⟨⟨a1, a2, a3, a4, a5, a6, a7, a8, a9, a10, a11, a12, a13, a14, a15, a16, a17⟩, hd, b1, b2, b3, b4, b5⟩ := h
  constructor <;> simp only [fillCtxFromPtrace] <;>
    first
      | assumption
      | exact hd _
      | (apply Nat.mod_lt; decide)
      | decide

/-- **C04 (i) registers.** -/
theorem C04_context_registers (r : UserRegs) (f : FpState) (d : List Nat) (h : PtraceOk r f d) :
    let ctx := serCtx (fillCtxFromPtrace r f d)
    fieldAt ctx OFF.rax 8 = r.rax ∧ fieldAt ctx OFF.rcx 8 = r.rcx ∧ fieldAt ctx OFF.rdx 8 = r.rdx ∧
    fieldAt ctx OFF.rbx 8 = r.rbx ∧ fieldAt ctx OFF.rsp 8 = r.rsp ∧ fieldAt ctx OFF.rbp 8 = r.rbp ∧
    fieldAt ctx OFF.rsi 8 = r.rsi ∧ fieldAt ctx OFF.rdi 8 = r.rdi ∧ fieldAt ctx OFF.r8 8 = r.r8 ∧
    fieldAt ctx OFF.r9 8 = r.r9 ∧ fieldAt ctx OFF.r10 8 = r.r10 ∧ fieldAt ctx OFF.r11 8 = r.r11 ∧
    fieldAt ctx OFF.r12 8 = r.r12 ∧ fieldAt ctx OFF.r13 8 = r.r13 ∧ fieldAt ctx OFF.r14 8 = r.r14 ∧
    fieldAt ctx OFF.r15 8 = r.r15 ∧ fieldAt ctx OFF.rip 8 = r.rip ∧
    fieldAt ctx OFF.eflags 4 = r.eflags % 2 ^ 32 ∧
    fieldAt ctx OFF.segCs 2 = r.cs % 65536 ∧ fieldAt ctx OFF.segDs 2 = r.ds % 65536 ∧
    fieldAt ctx OFF.segEs 2 = r.es % 65536 ∧ fieldAt ctx OFF.segFs 2 = r.fs % 65536 ∧
    fieldAt ctx OFF.segGs 2 = r.gs % 65536 ∧ fieldAt ctx OFF.segSs 2 = r.ss % 65536 ∧
    fieldAt ctx OFF.dr0 8 = d.getD 0 0 ∧ fieldAt ctx OFF.dr1 8 = d.getD 1 0 ∧ fieldAt ctx OFF.dr2 8 = d.getD 2 0 ∧
    fieldAt ctx OFF.dr3 8 = d.getD 3 0 ∧ fieldAt ctx OFF.dr6 8 = d.getD 6 0 ∧ fieldAt ctx OFF.dr7 8 = d.getD 7 0 ∧
    fieldAt ctx OFF.fsControlWord 2 = f.cwd ∧ fieldAt ctx OFF.fsStatusWord 2 = f.swd ∧
    fieldAt ctx OFF.fsMxCsr 4 = f.mxcsr ∧
    sliceAt ctx OFF.fsFloatRegisters 128 = padTo 128 f.st ∧
    sliceAt ctx OFF.fsXmmRegisters 256 = padTo 256 f.xmm ∧ ctx.length = 1232 := by
  intro ctx
  have o := ctx_offsets (fillCtxFromPtrace r f d) (fits_of_ptrace r f d h)
  exact ⟨o.rax, o.rcx, o.rdx, o.rbx, o.rsp, o.rbp, o.rsi, o.rdi, o.r8, o.r9, o.r10, o.r11, o.r12, o.r13, o.r14, o.r15, o.rip,
    o.eflags, o.cs, o.ds, o.es, o.fs, o.gs, o.ss, o.dr0, o.dr1, o.dr2, o.dr3, o.dr6, o.dr7, o.cwd, o.swd, o.mxcsr,
    o.st, o.xmm, o.length⟩

/-- a task of the target as the dumper meets it -/
structure TTask where
  tid : Nat
  attachable : Bool      -- PTRACE_ATTACH + wait succeed (it did not exit, is not traced by somebody else)
  spZero : Bool          -- runs with a null stack pointer (seccomp sandbox helper)
  deriving Repr, DecidableEq

/-- `suspend_threads`: `retain` the threads whose `suspend_thread` succeeded -/
def retained (ts : List TTask) : List TTask := ts.filter (fun t => t.attachable && !t.spZero)

/-- the soft errors pushed by `suspend_threads`: one per dropped thread, in order -/
def suspendErrors (ts : List TTask) : List Nat := (ts.filter (fun t => !(t.attachable && !t.spZero))).map (·.tid)

/-- thread_list_stream::write: one record per retained thread, registers fetched by that
    thread's own id (`get_thread_info_by_index(idx)` reads `threads[idx].tid`) -/
def threadRecords {R : Type} (ts : List TTask) (regsOf : Nat → R) : List (Nat × R) :=
  (retained ts).map (fun t => (t.tid, regsOf t.tid))

/-- **C04 (ii) completeness.** -/
theorem C04_list_complete {R : Type} (ts : List TTask) (regsOf : Nat → R) (t : TTask) (ht : t ∈ ts)
    (ha : t.attachable = true) (hs : t.spZero = false) : (t.tid, regsOf t.tid) ∈ threadRecords ts regsOf := by
  unfold threadRecords retained
  exact List.mem_map_of_mem (List.mem_filter.mpr ⟨ht, by simp [ha, hs]⟩)

/-- **C04 (ii) no duplicates.** -/
theorem C04_list_nodup {R : Type} (ts : List TTask) (regsOf : Nat → R) (h : (ts.map (·.tid)).Nodup) :
    ((threadRecords ts regsOf).map (·.1)).Nodup := by
  unfold threadRecords retained
  rw [List.map_map]
  exact List.Nodup.sublist (List.Sublist.map _ List.filter_sublist) h

/-- **C04 (ii) own registers.** -/
theorem C04_own_registers {R : Type} (ts : List TTask) (regsOf : Nat → R) (p : Nat × R)
    (hp : p ∈ threadRecords ts regsOf) : p.2 = regsOf p.1 ∧ ∃ t ∈ ts, t.tid = p.1 ∧ t.attachable = true ∧ t.spZero = false := by
  unfold threadRecords retained at hp
  obtain ⟨t, ht, rfl⟩ := List.mem_map.mp hp
  have := List.mem_filter.mp ht
  refine ⟨rfl, t, this.1, rfl, ?_⟩
  simpa using this.2

/-- **C04 (ii) every omitted thread is reported.** -/
theorem C04_omitted_reported (ts : List TTask) (t : TTask) (ht : t ∈ ts) :
    t ∈ retained ts ∨ t.tid ∈ suspendErrors ts := by
  by_cases h : (t.attachable && !t.spZero) = true
  · exact Or.inl (List.mem_filter.mpr ⟨ht, h⟩)
  · refine Or.inr (List.mem_map_of_mem (List.mem_filter.mpr ⟨ht, ?_⟩))
    cases ha : t.attachable <;> cases hs : t.spZero <;> simp [ha, hs] at h ⊢

example : PtraceOk ⟨1,2,3,4,5,6,7,8,9,10,11,12,13,14,15,0,16,0x33,0x246,17,0x2b,0,0,0,0,0,0⟩
    ⟨0x37f, 0, 0, 0, 0, 0, 0x1f80, 0xffff, [], []⟩ [] := by
  constructor <;> first | decide | (intro i; simp)

/-- **C04 (the writer refines the image model).** `thread_list_stream::write`, as the builder operations it performs
    (count, reserved record array, then per thread: stack bytes, instruction-pointer window, context, and the record
    written into slot `idx`), appends exactly the thread-list stage of the image model, for every thread list (image
    below 4 GiB): one
    record per thread, in order, no index shift -/
theorem C04_refine_thread_list (blamed : Nat) (hasCrash : Bool) (b : Buf) (ts : List DThread) (w : WSt)
    (hb : b.len + 4 + 48 * ts.length + (threadBlobs ts).length < 2 ^ 32) :
    opThreadList blamed hasCrash b ts w = some (⟨b.inner ++ threadListBody b.len ts⟩, ⟨ST_THREAD_LIST, 4 + 48 * ts.length, b.len⟩,
      ⟨w.blocks ++ threadBlocksAt (b.len + 4 + 48 * ts.length) ts, ctcAt blamed hasCrash (b.len + 4 + 48 * ts.length) ts w.ctc⟩) :=
  Refine_thread_list blamed hasCrash b ts w hb

/-- **C04 (image: one record per thread, each with its own context).** thread `k`'s record is in slot `k` of the
    thread list of the image and points at that thread's own context bytes -/
theorem C04_image_thread (d : DumpIn) (k : Nat) (t : DThread) (hk : d.threads[k]? = some t) :
    At (dumpBytes d) (32 + 12 * d.numWriters + 4 + 48 * k) (threadRec (threadPos d k) t) ∧
    At (dumpBytes d) (t.ctxRva (threadPos d k)) t.ctx := by
  have := Image_thread d k t hk
  exact ⟨this.1, this.2.2.2⟩

end Mdw
